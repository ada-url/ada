import AdaVerif.Base.Bytes
/-
Facts about lists that mention no definition of the model or the Spec: `takeWhile`/`dropWhile` against a text that is
taken apart as `a ++ rest`, last elements, and a few folds.  "`rest` stops `p`" is written out as
`rest = [] ∨ ∃ c t, rest = c :: t ∧ p c = false` wherever it occurs.
-/
namespace AdaVerif.Lemmas

theorem map_eq_self {α} (f : α → α) (l : List α) (h : ∀ x ∈ l, f x = x) : l.map f = l := by
  rw [List.map_congr_left h, List.map_id']

theorem mapM_length {α β} (f : α → Option β) (l : List α) (r : List β) (h : l.mapM f = some r) : r.length = l.length := by
  induction l generalizing r with
  | nil => simp at h; subst h; rfl
  | cons a t ih =>
    simp only [List.mapM_cons] at h
    cases ha : f a with
    | none => simp [ha] at h
    | some b =>
      cases ht : t.mapM f with
      | none => simp [ha, ht] at h
      | some r' =>
        simp [ha, ht] at h
        subst h
        simp [ih r' ht]

theorem mem_takeWhile {α} {p : α → Bool} {l : List α} {y : α} (h : y ∈ l.takeWhile p) : p y = true := by
  induction l with
  | nil => simp at h
  | cons a t ih =>
    simp only [List.takeWhile_cons] at h
    split at h
    · rename_i ha
      rcases List.mem_cons.mp h with rfl | h'
      · exact ha
      · exact ih h'
    · simp at h

theorem takeWhile_eq_self {α} (p : α → Bool) (l : List α) (h : ∀ x ∈ l, p x = true) : l.takeWhile p = l := by
  simpa using List.takeWhile_append_of_pos (l₂ := []) h

theorem takeWhile_takeWhile' {α} (p q : α → Bool) (l : List α) :
    (l.takeWhile p).takeWhile q = l.takeWhile (fun b => p b && q b) := by
  induction l with
  | nil => rfl
  | cons x t ih =>
    cases hp : p x <;> cases hq : q x <;> simp [hp, hq, ih]

theorem filter_takeWhile_comm {α} (q p : α → Bool) (hpq : ∀ x, p x = false → q x = true) (l : List α) :
    (l.takeWhile p).filter q = (l.filter q).takeWhile p := by
  induction l with
  | nil => rfl
  | cons x t ih =>
    cases hp : p x
    · simp [hp, hpq x hp]
    · cases hq : q x <;> simp [hp, hq, ih]

theorem takeWhile_split {α} (p : α → Bool) (l : List α) :
    ∃ rest, l = l.takeWhile p ++ rest ∧ (rest = [] ∨ ∃ c t, rest = c :: t ∧ p c = false) := by
  refine ⟨l.dropWhile p, List.takeWhile_append_dropWhile.symm, ?_⟩
  have := List.head?_dropWhile_not p l
  cases h : l.dropWhile p with
  | nil => exact Or.inl rfl
  | cons c t => rw [h] at this; exact Or.inr ⟨c, t, rfl, this⟩

theorem takeWhile_prefix_stop {α} (p : α → Bool) (a rest : List α) (hr : rest = [] ∨ ∃ c t, rest = c :: t ∧ p c = false) :
    (a ++ rest).takeWhile p = a.takeWhile p := by
  induction a with
  | nil =>
    rcases hr with rfl | ⟨c, t, rfl, hc⟩
    · rfl
    · simp [hc]
  | cons x t ih =>
    cases hp : p x <;> simp [hp, ih]

theorem dropWhile_stop {α} (p : α → Bool) (a rest : List α) (hr : rest = [] ∨ ∃ c t, rest = c :: t ∧ p c = false) :
    (a ++ rest).dropWhile p = a.dropWhile p ++ rest := by
  induction a with
  | nil =>
    rcases hr with rfl | ⟨c, t, rfl, hc⟩
    · rfl
    · simp [hc]
  | cons x t ih =>
    by_cases hx : p x = true
    · simp [hx, ih]
    · simp [hx]

theorem takeWhile_append_stop {α} (p : α → Bool) (a : List α) (c : α) (r : List α) (ha : ∀ x ∈ a, p x = true)
    (hc : p c = false) : (a ++ c :: r).takeWhile p = a := by
  rw [takeWhile_prefix_stop p a _ (Or.inr ⟨c, r, rfl, hc⟩), takeWhile_eq_self p a ha]

theorem take_length_takeWhile {α} (p : α → Bool) (l : List α) : l.take (l.takeWhile p).length = l.takeWhile p := by
  obtain ⟨rest, e, _⟩ := takeWhile_split p l
  have := List.take_left' (l₁ := l.takeWhile p) (l₂ := rest) rfl
  rwa [← e] at this

theorem takeWhile_append_drop {α : Type} (p : α → Bool) (s : List α) :
    s.takeWhile p ++ s.drop (s.takeWhile p).length = s := by
  induction s with
  | nil => rfl
  | cons a t ih =>
    rw [List.takeWhile_cons]
    split
    · simp [ih]
    · rfl

theorem take_upto {α} (p : α → Bool) (l : List α) (k : Nat) (hk : k ≤ (l.takeWhile p).length) :
    l.take k = (l.takeWhile p).take k := by
  obtain ⟨rest, e, _⟩ := takeWhile_split p l
  conv => lhs; rw [e]
  rw [List.take_append_of_le_length hk]

theorem dropWhile_eq_self {α} (p : α → Bool) (s : List α) (h : ∀ a, s.head? = some a → p a = false) : s.dropWhile p = s := by
  cases s with
  | nil => rfl
  | cons a t => simp [h a rfl]

theorem all_getLast? {α} {p : α → Bool} (t : List α) (h : t.all p = true) (z : α) (hz : t.getLast? = some z) : p z = true :=
  List.all_eq_true.1 h z (List.mem_of_getLast? hz)

theorem suffix_last {α} (p rest : List α) (hr : rest ≠ []) : (p ++ rest).getLast? = rest.getLast? := by
  rw [List.getLast?_append]
  cases h : rest.getLast? with
  | none => simp at h; exact absurd h hr
  | some x => rfl

theorem getLast?_ne_of_not_mem {α} {l : List α} {c : α} (h : c ∉ l) : l.getLast? ≠ some c :=
  fun e => h (List.mem_of_getLast? e)

theorem getLast?_append_ne {α} {a b : List α} {c : α} (ha : a.getLast? ≠ some c) (hb : b.getLast? ≠ some c) :
    (a ++ b).getLast? ≠ some c := by
  rw [List.getLast?_append]
  cases hx : b.getLast? with
  | none => simpa using ha
  | some y => rw [hx] at hb; simpa using hb

theorem mem_split_last {α} [DecidableEq α] (c : α) : ∀ (l : List α), c ∈ l → ∃ a r, l = a ++ c :: r ∧ c ∉ r := by
  intro l
  induction l with
  | nil => intro h; cases h
  | cons x t ih =>
    intro h
    by_cases ht : c ∈ t
    · obtain ⟨a, r, e1, e2⟩ := ih ht
      exact ⟨x :: a, r, by rw [e1]; rfl, e2⟩
    · simp only [List.mem_cons] at h
      rcases h with e | e
      · exact ⟨[], t, by rw [← e]; rfl, ht⟩
      · exact absurd e ht

theorem any_ext {α} (l : List α) (p q : α → Bool) (h : ∀ b ∈ l, p b = q b) : l.any p = l.any q := by
  induction l with
  | nil => rfl
  | cons a t ih =>
    simp only [List.any_cons, h a (by simp), ih (fun b hb => h b (by simp [hb]))]

theorem or_ne_zero (a b : Nat) : (a ||| b != 0) = (a != 0 || b != 0) := by
  rw [Bool.eq_iff_iff]; simp [Nat.or_eq_zero_iff]; omega

theorem foldOr_ne_zero {α} (f : α → Nat) (l : List α) (acc : Nat) :
    (l.foldl (fun acc x => acc ||| f x) acc != 0) = (acc != 0 || l.any fun x => f x != 0) := by
  induction l generalizing acc with
  | nil => simp
  | cons x t ih => rw [List.foldl_cons, ih, or_ne_zero, List.any_cons, Bool.or_assoc]

theorem ne_nil_of_not_isEmpty {α : Type} {l : List α} (h : ¬ l.isEmpty = true) : l ≠ [] :=
  fun hh => h (by rw [hh]; rfl)

end AdaVerif.Lemmas

namespace AdaVerif.Lemmas.FS

theorem isEmpty_false_of_ne {α} {l : List α} (h : l ≠ []) : l.isEmpty = false := by
  cases l with
  | nil => exact absurd rfl h
  | cons => rfl

end AdaVerif.Lemmas.FS

namespace AdaVerif.Lemmas.K4

theorem all_congr_mem (l : Bytes) (p q : UInt8 → Bool) (h : ∀ b ∈ l, p b = q b) : l.all p = l.all q := by
  induction l with
  | nil => rfl
  | cons a t ih =>
    simp only [List.all_cons, h a (by simp)]
    rw [ih (fun b hb => h b (by simp [hb]))]

end AdaVerif.Lemmas.K4

namespace AdaVerif.Lemmas.V6

theorem zeros_prefix (l : List Nat) : l = List.replicate (l.length - (l.dropWhile (· == 0)).length) 0 ++ l.dropWhile (· == 0) := by
  induction l with
  | nil => simp
  | cons x rest ih =>
    by_cases hx : x = 0
    · subst hx
      simp only [List.dropWhile_cons, beq_self_eq_true, ↓reduceIte, List.length_cons]
      have hle : (rest.dropWhile (· == 0)).length ≤ rest.length := (List.dropWhile_sublist _).length_le
      have : rest.length + 1 - (rest.dropWhile (· == 0)).length = (rest.length - (rest.dropWhile (· == 0)).length) + 1 := by omega
      rw [this, List.replicate_succ, List.cons_append, ← ih]
    · have : (x == 0) = false := by simpa using hx
      simp [List.dropWhile_cons, this]

end AdaVerif.Lemmas.V6
