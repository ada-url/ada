import AdaVerif.Lemmas.SearchParams
/-
The hand-written UTF-8 → UTF-16 decoder inside the `sort()` comparator produces, on the UTF-8
encoding of any sequence of Unicode scalar values, exactly the UTF-16 encoding of that sequence.
Hence the comparator orders keys by UTF-16 code units, as the URL Standard requires.
-/
namespace AdaVerif.Lemmas
open AdaVerif AdaVerif.Model AdaVerif.Model.USP

def isScalar (cp : Nat) : Prop := cp < 0x110000 ∧ ¬(0xD800 ≤ cp ∧ cp ≤ 0xDFFF)

/-- UTF-8 encoding (RFC 3629), written arithmetically -/
def utf8Enc (cp : Nat) : Bytes :=
  if cp < 0x80 then [UInt8.ofNat cp]
  else if cp < 0x800 then [UInt8.ofNat (0xC0 + cp / 64), UInt8.ofNat (0x80 + cp % 64)]
  else if cp < 0x10000 then [UInt8.ofNat (0xE0 + cp / 4096), UInt8.ofNat (0x80 + cp / 64 % 64), UInt8.ofNat (0x80 + cp % 64)]
  else [UInt8.ofNat (0xF0 + cp / 262144), UInt8.ofNat (0x80 + cp / 4096 % 64), UInt8.ofNat (0x80 + cp / 64 % 64),
        UInt8.ofNat (0x80 + cp % 64)]

def utf16Enc (cp : Nat) : List Nat :=
  if cp < 0x10000 then [cp] else [0xD800 + (cp - 0x10000) / 1024, 0xDC00 + (cp - 0x10000) % 1024]

theorem and_mask (x k : Nat) : x &&& (2 ^ k - 1) = x % 2 ^ k := Nat.and_two_pow_sub_one_eq_mod x k

theorem or_shift (a b i : Nat) (h : b < 2 ^ i) : (a <<< i) ||| b = a * 2 ^ i + b := by
  rw [← Nat.shiftLeft_add_eq_or_of_lt h, Nat.shiftLeft_eq]

theorem or_add (x y i : Nat) (hx : x % 2 ^ i = 0) (hy : y < 2 ^ i) : x ||| y = x + y := by
  have : x = (x / 2 ^ i) <<< i := by rw [Nat.shiftLeft_eq, Nat.div_mul_cancel (Nat.dvd_of_mod_eq_zero hx)]
  rw [this, Nat.shiftLeft_add_eq_or_of_lt hy]

/-- a lead or continuation byte carries its payload below the marker bits -/
theorem payload (m x k : Nat) (hm : m % 2 ^ k = 0) (hx : x < 2 ^ k) : (m + x) &&& (2 ^ k - 1) = x := by
  rw [and_mask, Nat.add_mod, hm, Nat.zero_add, Nat.mod_mod, Nat.mod_eq_of_lt hx]

theorem dec2 (q r : Nat) (hq : q < 32) (hr : r < 64) :
    (((0xC0 + q) &&& 0x1F) <<< 6) ||| ((0x80 + r) &&& 0x3F) = q * 64 + r := by
  rw [payload 0xC0 q 5 rfl hq, payload 0x80 r 6 rfl hr, Nat.shiftLeft_eq, or_add (q * 2 ^ 6) r 6 (Nat.mul_mod_left ..) hr]

theorem dec3 (p q r : Nat) (hp : p < 16) (hq : q < 64) (hr : r < 64) :
    (((0xE0 + p) &&& 0x0F) <<< 12) ||| (((0x80 + q) &&& 0x3F) <<< 6) ||| ((0x80 + r) &&& 0x3F) =
      p * 4096 + q * 64 + r := by
  rw [payload 0xE0 p 4 rfl hp, payload 0x80 q 6 rfl hq, payload 0x80 r 6 rfl hr, Nat.shiftLeft_eq, Nat.shiftLeft_eq,
    or_add (p * 2 ^ 12) (q * 2 ^ 6) 12 (Nat.mul_mod_left ..) (by omega),
    or_add (p * 2 ^ 12 + q * 2 ^ 6) r 6 (by omega) hr]

theorem dec4 (o p q r : Nat) (ho : o < 8) (hp : p < 64) (hq : q < 64) (hr : r < 64) :
    (((0xF0 + o) &&& 0x07) <<< 18) ||| (((0x80 + p) &&& 0x3F) <<< 12) ||| (((0x80 + q) &&& 0x3F) <<< 6) |||
      ((0x80 + r) &&& 0x3F) = o * 262144 + p * 4096 + q * 64 + r := by
  rw [payload 0xF0 o 3 rfl ho, payload 0x80 p 6 rfl hp, payload 0x80 q 6 rfl hq, payload 0x80 r 6 rfl hr,
    Nat.shiftLeft_eq, Nat.shiftLeft_eq, Nat.shiftLeft_eq,
    or_add (o * 2 ^ 18) (p * 2 ^ 12) 18 (Nat.mul_mod_left ..) (by omega),
    or_add (o * 2 ^ 18 + p * 2 ^ 12) (q * 2 ^ 6) 12 (by omega) (by omega),
    or_add (o * 2 ^ 18 + p * 2 ^ 12 + q * 2 ^ 6) r 6 (by omega) hr]

theorem toNat_ofNat (n : Nat) (h : n < 256) : (UInt8.ofNat n).toNat = n := by
  simp [Nat.mod_eq_of_lt h]

-- The decoder with a pending surrogate, and on a lead byte of each class for any continuation bytes; bytes are
-- given by their values.

theorem nextUnit_low (s : Bytes) (low : Nat) (h : low ≠ 0) : nextUnit (s, low) = some (low, (s, 0)) := by
  simp [nextUnit, h]

theorem nextUnit_one (c : Nat) (r : Bytes) (h : c ≤ 0x7F) : nextUnit (UInt8.ofNat c :: r, 0) = some (c, (r, 0)) := by
  have : ¬ 0x7F < c := by omega
  have : ¬ 0xDF < c := by omega
  have : ¬ 0xEF < c := by omega
  simp [nextUnit, toNat_ofNat c (by omega), *]

theorem nextUnit_two (c b1 : Nat) (r : Bytes) (h1 : 0x7F < c) (h2 : c ≤ 0xDF) (hb1 : b1 < 256) :
    nextUnit (UInt8.ofNat c :: UInt8.ofNat b1 :: r, 0) = some (((c &&& 0x1F) <<< 6) ||| (b1 &&& 0x3F), (r, 0)) := by
  simp [nextUnit, toNat_ofNat c (by omega), toNat_ofNat b1 hb1, h1, h2]

theorem nextUnit_three (c b1 b2 : Nat) (r : Bytes) (h1 : 0xDF < c) (h2 : c ≤ 0xEF) (hb1 : b1 < 256) (hb2 : b2 < 256) :
    nextUnit (UInt8.ofNat c :: UInt8.ofNat b1 :: UInt8.ofNat b2 :: r, 0) =
      some (((c &&& 0x0F) <<< 12) ||| ((b1 &&& 0x3F) <<< 6) ||| (b2 &&& 0x3F), (r, 0)) := by
  have : ¬ c ≤ 0xDF := by omega
  simp [nextUnit, toNat_ofNat c (by omega), toNat_ofNat b1 hb1, toNat_ofNat b2 hb2, h1, h2, this]

theorem nextUnit_four (c b1 b2 b3 : Nat) (r : Bytes) (h1 : 0xEF < c) (h2 : c ≤ 0xF7) (hb1 : b1 < 256) (hb2 : b2 < 256)
    (hb3 : b3 < 256) :
    nextUnit (UInt8.ofNat c :: UInt8.ofNat b1 :: UInt8.ofNat b2 :: UInt8.ofNat b3 :: r, 0) =
      (let cp := ((((c &&& 0x07) <<< 18) ||| ((b1 &&& 0x3F) <<< 12) ||| ((b2 &&& 0x3F) <<< 6) ||| (b3 &&& 0x3F)) +
                    4294967296 - 0x10000) % 4294967296
       some ((0xD800 + (cp >>> 10)) % 65536, (r, (0xDC00 + (cp &&& 0x3FF)) % 65536))) := by
  have : ¬ c ≤ 0xDF := by omega
  have : ¬ c ≤ 0xEF := by omega
  simp [nextUnit, toNat_ofNat c (by omega), toNat_ofNat b1 hb1, toNat_ofNat b2 hb2, toNat_ofNat b3 hb3, *]

theorem units_enc (cp : Nat) (h : isScalar cp) (rest : Bytes) :
    units (utf8Enc cp ++ rest, 0) = utf16Enc cp ++ units (rest, 0) := by
  obtain ⟨hlt, hsur⟩ := h
  unfold utf8Enc utf16Enc
  split
  · have : cp < 0x10000 := by omega
    rw [if_pos this, List.singleton_append, units_some _ _ _ (nextUnit_one _ rest (by omega))]
    rfl
  · split
    · have : cp < 0x10000 := by omega
      rw [if_pos this, List.cons_append, List.cons_append, List.nil_append,
        units_some _ _ _ (nextUnit_two _ _ rest (by omega) (by omega) (by omega)),
        dec2 _ _ (by omega) (by omega), Nat.div_add_mod']
      rfl
    · split
      · have hcp : cp / 4096 * 4096 + cp / 64 % 64 * 64 + cp % 64 = cp := by omega
        rw [List.cons_append, List.cons_append, List.cons_append, List.nil_append,
          units_some _ _ _ (nextUnit_three _ _ _ rest (by omega) (by omega) (by omega) (by omega)),
          dec3 _ _ _ (by omega) (by omega) (by omega), hcp]
        rfl
      · have hcp : cp / 262144 * 262144 + cp / 4096 % 64 * 4096 + cp / 64 % 64 * 64 + cp % 64 = cp := by omega
        -- the subtraction is done in `uint32_t`; it does not wrap for a code point of four bytes
        have hw : (cp + 4294967296 - 65536) % 4294967296 = cp - 65536 := by omega
        have hhi : (55296 + (cp - 65536) / 1024) % 65536 = 55296 + (cp - 65536) / 1024 := Nat.mod_eq_of_lt (by omega)
        have hlo : (56320 + (cp - 65536) % 1024) % 65536 = 56320 + (cp - 65536) % 1024 := Nat.mod_eq_of_lt (by omega)
        rw [List.cons_append, List.cons_append, List.cons_append, List.cons_append, List.nil_append,
          units_some _ _ _ (nextUnit_four _ _ _ _ rest (by omega) (by omega) (by omega) (by omega) (by omega)),
          dec4 _ _ _ _ (by omega) (by omega) (by omega) (by omega)]
        simp only [hcp, hw, Nat.shiftRight_eq_div_pow, and_mask _ 10, hhi, hlo]
        rw [units_some _ _ _ (nextUnit_low rest _ (by omega))]
        rfl

def utf8 (cps : List Nat) : Bytes := cps.flatMap utf8Enc
def utf16 (cps : List Nat) : List Nat := cps.flatMap utf16Enc

theorem units_utf8 (cps : List Nat) (h : ∀ cp ∈ cps, isScalar cp) : units (utf8 cps, 0) = utf16 cps := by
  induction cps with
  | nil =>
    have : nextUnit (([] : Bytes), 0) = none := by simp [nextUnit]
    simp [utf8, utf16, units_none _ this]
  | cons cp rest ih =>
    simp only [utf8, utf16, List.flatMap_cons]
    rw [units_enc cp (h cp (by simp)) _]
    congr 1
    exact ih (fun c hc => h c (by simp [hc]))

theorem keyLess_utf16 (a b : List Nat) (va vb : Bytes) (ha : ∀ cp ∈ a, isScalar cp) (hb : ∀ cp ∈ b, isScalar cp) :
    USP.keyLess (utf8 a, va) (utf8 b, vb) = lexLt (utf16 a) (utf16 b) := by
  rw [keyLess_eq, units_utf8 a ha, units_utf8 b hb]

end AdaVerif.Lemmas
