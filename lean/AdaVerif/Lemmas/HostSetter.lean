import AdaVerif.Model.HostSetter
import AdaVerif.Lemmas.HostParse
import AdaVerif.Lemmas.UrlSetters
import AdaVerif.Lemmas.ListFacts
/-
`url::set_host` / `url::set_hostname` implement the Standard's host / hostname setters (host state and file host state
with a state override), for every value in which no '/', '?' or '\\' stands between a '[' and the next ']'.
-/
namespace AdaVerif.Lemmas.HS
open AdaVerif AdaVerif.Spec AdaVerif.Lemmas AdaVerif.Model.UrlRec AdaVerif.Model.HostParse

/-- no hard delimiter between a '[' and the next ']' (before the host ends): the one situation in which
    `get_host_delimiter_location` (which jumps to the ']') and the Standard's host state (which stops) part ways -/
def bracketClean (special : Bool) : Bool → Bytes → Bool
  | _, [] => true
  | false, c :: r =>
    if isHardDelim special c || c == 0x3A then true
    else if c == 0x5B then bracketClean special true r else bracketClean special false r
  | true, c :: r =>
    if c == 0x5D then bracketClean special false r
    else if isHardDelim special c then false
    else bracketClean special true r

/-- `get_host_delimiter_location` is the Standard's two steps in one walk: cut at the first hard delimiter, then look
    for a ':' outside brackets -/
theorem gScan_split (special : Bool) : ∀ (l : Bytes) (inside : Bool) (i : Nat), bracketClean special inside l = true →
    gScan special inside l i =
      (let upto := l.takeWhile (fun b => !isHardDelim special b)
       let he := hostEnd.go upto i inside
       if he < i + upto.length then (he, true) else (i + upto.length, false)) := by
  intro l
  induction l with
  | nil => intro inside i _; cases inside <;> simp [gScan, hostEnd.go]
  | cons c r ih =>
    intro inside i h
    have step : ∀ ins', bracketClean special ins' r = true → isHardDelim special c = false →
        (c == 0x3A && !inside) = false → (if c == 0x5B then true else if c == 0x5D then false else inside) = ins' →
        gScan special ins' r (i + 1) =
          (let upto := (c :: r).takeWhile (fun b => !isHardDelim special b)
           let he := hostEnd.go upto i inside
           if he < i + upto.length then (he, true) else (i + upto.length, false)) := by
      intro ins' hcl hh hc hins
      rw [ih ins' (i + 1) hcl]
      simp only [List.takeWhile_cons, hh, Bool.not_false, ↓reduceIte, hostEnd.go, hc, Bool.false_eq_true, hins, List.length_cons,
        Nat.add_assoc, Nat.add_comm 1]
    unfold bracketClean at h
    cases inside with
    | false =>
      unfold gScan
      by_cases hh : isHardDelim special c = true
      · simp [hh, hostEnd.go]
      · have hh' : isHardDelim special c = false := by simpa using hh
        by_cases hc : (c == 0x3A) = true
        · simp [hh', hc, hostEnd.go]
        · have hc' : (c == 0x3A) = false := by simpa using hc
          simp only [hh', hc', Bool.false_eq_true, ↓reduceIte, Bool.or_self] at h ⊢
          by_cases hb : (c == 0x5B) = true
          · simp only [hb, ↓reduceIte] at h ⊢
            exact step true h hh' (by simp [hc']) (by simp [hb])
          · simp only [hb, Bool.false_eq_true, ↓reduceIte] at h ⊢
            exact step false h hh' (by simp [hc']) (by simp [hb])
    | true =>
      unfold gScan
      by_cases hd : (c == 0x5D) = true
      · have hcd : c = 0x5D := by simpa using hd
        subst hcd
        simp only [beq_self_eq_true, ↓reduceIte] at h ⊢
        exact step false h (by cases special <;> decide) (by decide) (by decide)
      · simp only [hd, Bool.false_eq_true, ↓reduceIte] at h ⊢
        by_cases hh : isHardDelim special c = true
        · simp [hh] at h
        · have hh' : isHardDelim special c = false := by simpa using hh
          simp only [hh', Bool.false_eq_true, ↓reduceIte] at h
          exact step true h hh' (by simp) (by simp [hd])

theorem digits_same (s : Bytes) (k : Nat) (hk : k ≤ (s.takeWhile (· != 0x23)).length) :
    ((s.takeWhile (· != 0x23)).drop k).takeWhile isAsciiDigit = (s.drop k).takeWhile isAsciiDigit := by
  obtain ⟨rest, e, hr⟩ := takeWhile_split (· != 0x23) s
  have hr' : rest = [] ∨ ∃ c t, rest = c :: t ∧ isAsciiDigit c = false := by
    rcases hr with h | ⟨c, t, h1, h2⟩
    · exact Or.inl h
    · right
      have hc : c = 0x23 := by simpa using h2
      exact ⟨c, t, h1, by rw [hc]; decide⟩
  conv => rhs; rw [e, List.drop_append_of_le_length hk]
  rw [takeWhile_prefix_stop _ _ _ hr']

open AdaVerif.Lemmas.UR in
theorem hostSetterPort_eq (u : Url) (t : Bytes) :
    hostSetterPort ((defaultPort u.scheme).getD 0) (recOf u) t = recOf (portOverride u t) := by
  unfold hostSetterPort portOverride
  cases t with
  | nil => simp
  | cons c r =>
    simp only
    by_cases hd : isAsciiDigit c = true
    · have hne : ((c :: r).takeWhile isAsciiDigit).isEmpty = false := by simp [hd]
      simp only [hd, Bool.not_true, Bool.false_eq_true, ↓reduceIte, hne]
      by_cases hbig : parseRadix 10 ((c :: r).takeWhile isAsciiDigit) > 65535
      · simp [hbig]
      · simp only [hbig, ↓reduceIte]
        rw [UR.portValid_eq]
        generalize parseRadix 10 ((c :: r).takeWhile isAsciiDigit) = p
        cases defaultPort u.scheme == some p <;> simp only [Bool.not_true, Bool.not_false, Bool.false_eq_true, ↓reduceIte, with_port]
    · have hd' : isAsciiDigit c = false := by simpa using hd
      simp [hd']

theorem strip_cut (v : Bytes) : stripTN (v.takeWhile (· != 0x23)) = (stripTN v).takeWhile (· != 0x23) := by
  unfold stripTN
  apply _root_.AdaVerif.Lemmas.filter_takeWhile_comm
  intro x hx
  have : x = 0x23 := by simpa using hx
  subst this; decide

theorem upto_eq (special : Bool) (s : Bytes) :
    s.takeWhile (fun b => !(b == 0x2F || b == 0x3F || b == 0x23 || (special && b == 0x5C))) =
      (s.takeWhile (· != 0x23)).takeWhile (fun b => !isHardDelim special b) := by
  rw [takeWhile_takeWhile']
  congr 1
  funext b
  -- the '#' test moves to the front of the disjunction
  have swap : ∀ x y h z : Bool, (!(x || y || h || z)) = (!h && !(x || y || z)) := by decide
  simp only [isHardDelim, bne]
  exact swap _ _ _ _

theorem fileHost_eq (s : Bytes) :
    s.takeWhile (fun b => !(b == 0x2F || b == 0x5C || b == 0x3F || b == 0x23)) =
      (s.takeWhile (· != 0x23)).takeWhile (fun c => !(c == 0x2F || c == 0x5C || c == 0x3F)) := by
  rw [takeWhile_takeWhile']
  congr 1
  funext b
  have swap : ∀ x y z h : Bool, (!(x || y || z || h)) = (!h && !(x || y || z)) := by decide
  simp only [bne]
  exact swap _ _ _ _

theorem split_agree (special : Bool) (N : Bytes) (hc : bracketClean special false N = true) :
    getHostDelimiterLocation special N =
      (if hostEnd (N.takeWhile (fun b => !isHardDelim special b)) < (N.takeWhile (fun b => !isHardDelim special b)).length
       then (hostEnd (N.takeWhile (fun b => !isHardDelim special b)), true)
       else ((N.takeWhile (fun b => !isHardDelim special b)).length, false)) := by
  unfold getHostDelimiterLocation
  rw [gScan_split special N false 0 hc]
  simp only [Nat.zero_add, hostEnd]
  rfl

theorem hostParse_not_opaque (idna : Idna) (buf o : Bytes) : hostParse idna buf false ≠ some (.opaqueHost o) := by
  unfold hostParse
  split
  · split
    · simp
    · cases ipv6Parse _ <;> simp
  · simp only [Bool.false_eq_true, ↓reduceIte]
    split
    · simp
    · split
      · simp
      · split
        · cases ipv4Parse _ <;> simp
        · simp

theorem serialize_localhost (idna : Idna) (buf : Bytes) (h : Host) (hp : hostParse idna buf false = some h) :
    (h.serialize == bLocalhost) = (h == .domain bLocalhost) := by
  cases h with
  | domain d =>
    rw [Bool.eq_iff_iff, beq_iff_eq, beq_iff_eq, Host.domain.injEq]
    rfl
  | ipv4 a =>
    have h1 : (Host.ipv4 a).serialize ≠ bLocalhost := by
      intro e
      have hd := allDD_serialize a
      rw [show ipv4Serialize a = bLocalhost from e] at hd
      rcases hd 0x6C (by simp [bLocalhost]) with h | h <;> exact absurd h (by decide)
    rw [beq_eq_false_iff_ne.mpr h1, beq_eq_false_iff_ne.mpr (by intro e; cases e)]
  | ipv6 p =>
    have h1 : (Host.ipv6 p).serialize ≠ bLocalhost := by simp [Host.serialize, bLocalhost]
    rw [beq_eq_false_iff_ne.mpr h1, beq_eq_false_iff_ne.mpr (by intro e; cases e)]
  | opaqueHost o => exact absurd hp (hostParse_not_opaque idna buf o)
  | empty => rfl

open AdaVerif.Lemmas.UR in
theorem withHost_recOf (u : Url) (h : Host) : (recOf u).withHost h.serialize = recOf { u with host := some h } := by
  simp [Rec.withHost, recOf, Url.isSpecial, Url.pathSerialized]

open AdaVerif.Lemmas.UR in
theorem withHost_empty (u : Url) : (recOf u).withHost [] = recOf { u with host := some .empty } := by
  simp [Rec.withHost, recOf, Url.isSpecial, Url.pathSerialized, Host.serialize]

theorem parseHost_none (idna : Idna) (sp : Bool) (buf : Bytes) (hne : buf ≠ []) (hid : ∀ d, HP.IdnaAt idna d)
    (h : parseHost idna sp buf = none) : hostParse idna buf (!sp) = none := by
  rw [HP.parseHost_eq idna sp buf hne (hid _)] at h
  simpa using h

theorem parseHost_some (idna : Idna) (sp : Bool) (buf t : Bytes) (k : Nat) (hne : buf ≠ []) (hid : ∀ d, HP.IdnaAt idna d)
    (h : parseHost idna sp buf = some (t, k)) : ∃ H, hostParse idna buf (!sp) = some H ∧ t = H.serialize := by
  rw [HP.parseHost_eq idna sp buf hne (hid _)] at h
  cases hp : hostParse idna buf (!sp) with
  | none => simp [hp] at h
  | some H =>
    simp only [hp, Option.map_some, HP.viewH, Option.some.injEq, Prod.mk.injEq] at h
    exact ⟨H, rfl, h.1.symm⟩

theorem ne_nil_of_isEmpty {buf : Bytes} (h : buf.isEmpty = false) : buf ≠ [] := by
  intro e; rw [e] at h; cases h

open AdaVerif.Lemmas.UR AdaVerif.Lemmas.AggL in
theorem setHostR_eq (hn : Bool) (idna : Idna) (L ty : Nat) (u : Url) (v : Bytes) (hty : PP.TyOf u.scheme ty)
    (hid : ∀ d, HP.IdnaAt idna d)
    (hclean : u.scheme ≠ bFile → bracketClean u.isSpecial false (stripTN (v.takeWhile (· != 0x23))) = true) :
    (setHostR hn idna L ty ((defaultPort u.scheme).getD 0) (recOf u) v).1 =
      if getHrefSize (recOf (setHostGeneric hn idna u v)) ≤ L then recOf (setHostGeneric hn idna u v) else recOf u := by
  unfold setHostR setHostGeneric
  rw [recOf_opq, show (recOf u).special = u.isSpecial from rfl,
    show (recOf u).hasCredentials = u.includesCredentials from rfl, show (recOf u).port = u.port from rfl]
  by_cases ho : u.isOpaque = true
  · simp only [ho, ↓reduceIte]; exact (ite_self _).symm
  rw [if_neg ho, if_neg ho]
  simp only [strip_cut]
  generalize hsdef : stripTN v = s
  by_cases hfile : u.scheme = bFile
  · -- file host state
    -- `ty` 6 is `scheme::FILE`
    have hty6 : (ty != 6) = false := by
      have := hty.file; rw [hfile] at this; simp at this; simp [this]
    have hspf : u.isSpecial = true := by simp [Url.isSpecial, hfile, isSpecialScheme]
    have hfb : (u.scheme == bFile) = true := by simp [hfile]
    simp only [hty6, Bool.false_eq_true, ↓reduceIte, hfb, fileHost_eq, hspf]
    generalize (s.takeWhile (· != 0x23)).takeWhile (fun c => !(c == 0x2F || c == 0x5C || c == 0x3F)) = fh
    cases he : fh.isEmpty
    case true => simp only [↓reduceIte, withHost_empty]; exact UR.ite_gt_fst _ _ _ _
    simp only [Bool.false_eq_true, ↓reduceIte]
    cases hph : parseHost idna true fh with
    | none =>
      have hp := parseHost_none idna true fh (ne_nil_of_isEmpty he) hid hph
      simp only [Bool.not_true] at hp
      rw [hp]; exact (ite_self _).symm
    | some p =>
      obtain ⟨t, k⟩ := p
      obtain ⟨h, hp, rfl⟩ := parseHost_some idna true fh t k (ne_nil_of_isEmpty he) hid hph
      simp only [Bool.not_true] at hp
      simp only [hp, serialize_localhost idna fh h hp]
      cases hl : h == Host.domain bLocalhost
      · simp only [Bool.false_eq_true, ↓reduceIte, withHost_recOf]; exact UR.ite_gt_fst _ _ _ _
      · simp only [↓reduceIte, withHost_empty]; exact UR.ite_gt_fst _ _ _ _
  · -- host state
    have hfb : (u.scheme == bFile) = false := by simpa using hfile
    have hty6 : (ty != 6) = true := by
      have := hty.file; rw [hfb] at this; simpa using this
    simp only [hty6, ↓reduceIte, hfb, Bool.false_eq_true, upto_eq]
    have hcl := hclean hfile
    rw [strip_cut, hsdef] at hcl
    generalize hN : s.takeWhile (· != 0x23) = N at hcl
    rw [split_agree u.isSpecial N hcl]
    generalize hup : N.takeWhile (fun b => !isHardDelim u.isSpecial b) = upto
    by_cases hcolon : hostEnd upto < upto.length
    · -- a ':' outside brackets
      simp only [hcolon, ↓reduceIte]
      rw [show N.take (hostEnd upto) = upto.take (hostEnd upto) by
        rw [← hup]; exact take_upto _ N _ (by rw [hup]; omega)]
      cases hbe : (upto.take (hostEnd upto)).isEmpty
      case true => exact (ite_self _).symm
      simp only [Bool.false_eq_true, ↓reduceIte]
      cases hn
      case true => exact (ite_self _).symm
      simp only [Bool.false_eq_true, ↓reduceIte]
      cases hph : parseHost idna u.isSpecial (upto.take (hostEnd upto)) with
      | none => rw [parseHost_none idna _ _ (ne_nil_of_isEmpty hbe) hid hph]; exact (ite_self _).symm
      | some p =>
        obtain ⟨t, k⟩ := p
        obtain ⟨h, hp, rfl⟩ := parseHost_some idna _ _ t k (ne_nil_of_isEmpty hbe) hid hph
        simp only [hp, withHost_recOf]
        rw [hostSetterPort_eq { u with host := some h } (N.drop (hostEnd upto + 1))]
        have hk : hostEnd upto + 1 ≤ (s.takeWhile (· != 0x23)).length := by
          have h1 : upto.length ≤ N.length := by
            rw [← hup]; exact (List.takeWhile_prefix (p := fun b => !isHardDelim u.isSpecial b)).length_le
          rw [hN]; omega
        have hdig : portOverride { u with host := some h } (N.drop (hostEnd upto + 1)) =
            portOverride { u with host := some h } (s.drop (hostEnd upto + 1)) := by
          unfold portOverride
          rw [← hN, digits_same s _ hk]
        rw [hdig]
        exact UR.ite_gt_fst _ _ _ _
    · -- the host runs to the end of the text
      simp only [hcolon, ↓reduceIte]
      rw [show N.take upto.length = upto by
        rw [← hup, take_upto (fun b => !isHardDelim u.isSpecial b) N _ (Nat.le_refl _), List.take_length]]
      cases hue : upto.isEmpty
      case true =>
        have hunil : upto = [] := List.isEmpty_iff.mp hue
        simp only [Bool.true_and, Bool.and_true]
        cases hs : u.isSpecial
        case true => exact (ite_self _).symm
        simp only [Bool.false_eq_true, ↓reduceIte, Bool.not_false]
        cases hcp : u.includesCredentials || u.port.isSome
        case true => exact (ite_self _).symm
        have hp : hostParse idna upto true = some (.opaqueHost []) := by
          rw [hunil]; simp [hostParse, opaqueHostParse, percentEncode]
        simp only [Bool.false_eq_true, ↓reduceIte, hp, withHost_empty]
        exact UR.ite_gt_fst _ _ _ _
      simp only [Bool.false_and, Bool.and_false, Bool.false_eq_true, ↓reduceIte]
      cases hph : parseHost idna u.isSpecial upto with
      | none => rw [parseHost_none idna _ _ (ne_nil_of_isEmpty hue) hid hph]; exact (ite_self _).symm
      | some p =>
        obtain ⟨t, k⟩ := p
        obtain ⟨h, hp, rfl⟩ := parseHost_some idna _ _ t k (ne_nil_of_isEmpty hue) hid hph
        simp only [hp, withHost_recOf]
        exact UR.ite_gt_fst _ _ _ _

end AdaVerif.Lemmas.HS
