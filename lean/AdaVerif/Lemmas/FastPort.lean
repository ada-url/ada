import AdaVerif.Lemmas.FastScheme
/-
C08: the port validation of the fast scanner (strip leading zeros, at most five significant digits, value at most
65535) decides exactly whether the Standard's port state succeeds.
-/
namespace AdaVerif.Lemmas.FS
open AdaVerif AdaVerif.Spec AdaVerif.Lemmas AdaVerif.Model AdaVerif.Model.FastScan

theorem parseRadix_dropZeros (r : Nat) (l : Bytes) : parseRadix r (l.dropWhile (· == 0x30)) = parseRadix r l := by
  induction l with
  | nil => rfl
  | cons c t ih =>
    simp only [List.dropWhile_cons]
    split
    · rename_i hc
      rw [beq_iff_eq] at hc
      subst hc
      rw [ih, Radix.parseRadix_cons, show digitVal 0x30 = 0 by decide, Nat.zero_mul, Nat.zero_add]
    · rfl

theorem all_digit_zeros (l : Bytes) : (l.dropWhile (· == 0x30)).all isDigit = l.all isAsciiDigit := by
  induction l with
  | nil => rfl
  | cons c t ih =>
    simp only [List.dropWhile_cons]
    split
    · rename_i hc
      have : c = 0x30 := by simpa using hc
      subst this
      rw [ih]
      have : isAsciiDigit 0x30 = true := by decide
      simp [this]
    · rfl

theorem six_digits_big (sig : Bytes) (hd : ∀ b ∈ sig, isAsciiDigit b = true) (hh : sig.head? ≠ some 0x30) (hl : sig.length > 5) :
    parseRadix 10 sig > 65535 := by
  cases sig with
  | nil => simp at hl
  | cons c r =>
    have h1 := Radix.pow_le_parseRadix c r (hd c (by simp)) (by simpa using hh)
    have h2 : 10 ^ 5 ≤ 10 ^ r.length := Nat.pow_le_pow_right (by decide) (by simp at hl; omega)
    have h4 : (10 : Nat) ^ 5 = 100000 := by decide
    omega

theorem portOk_eq (scheme port : Bytes) : FastScan.portOk port = (parsePort scheme port).isSome := by
  rw [parsePort_isSome]
  unfold FastScan.portOk
  by_cases he : port.isEmpty = true
  · have : port = [] := by simpa using he
    subst this; rfl
  · have he' : port.isEmpty = false := by simpa using he
    simp only [he', Bool.false_eq_true, ↓reduceIte, Bool.false_or]
    have hall := all_digit_zeros port
    have hval := parseRadix_dropZeros 10 port
    generalize hsig : port.dropWhile (· == 0x30) = sig at hall hval
    have hhead : sig.head? ≠ some 0x30 := by
      intro e
      have := List.head?_dropWhile_not (· == (0x30 : UInt8)) port
      rw [hsig, e] at this
      simp at this
    by_cases hd : port.all isAsciiDigit = true
    · have hds : ∀ b ∈ sig, isAsciiDigit b = true := by
        rw [← hall] at hd
        simp only [List.all_eq_true] at hd
        exact hd
      have hsd : sig.all isDigit = true := by rw [hall]; exact hd
      by_cases hl : sig.length > 5
      · have := six_digits_big sig hds hhead hl
        rw [hval] at this
        have : ¬ parseRadix 10 port ≤ 65535 := by omega
        simp [hl, hd, this]
      · have hm := modelVal_eq sig 0 hds
        simp only [hl, ↓reduceIte, hsd, Bool.not_true, Bool.false_eq_true, hd, Bool.true_and]
        rw [hm]
        have : sig.foldl (fun acc b => acc * 10 + digitVal b) 0 = parseRadix 10 sig := rfl
        rw [this, hval]
    · have hd' : port.all isAsciiDigit = false := by simpa using hd
      have hsd : sig.all isDigit = false := by rw [hall]; exact hd'
      simp only [hd', Bool.false_and]
      split
      · rfl
      · simp [hsd]

end AdaVerif.Lemmas.FS
