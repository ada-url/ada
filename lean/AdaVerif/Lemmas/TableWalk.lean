import AdaVerif.Base.Bytes
/-
Facts about all 256 entries of a generated table.
-/
namespace AdaVerif.Lemmas
open AdaVerif

/-- A property of every entry of a 256-entry table holds if it holds along one walk through the table.  (Evaluating
    `tget T b.toNat` for each `b` walks the list 256 times, which is where the cost of a sweep over a table goes.) -/
theorem forall_tget {T : List Nat} {Q : UInt8 → Nat → Prop} [∀ b v, Decidable (Q b v)] (hlen : T.length = 256)
    (h : (T.zipIdx.all fun x => decide (Q (UInt8.ofNat x.2) x.1)) = true) : ∀ b : UInt8, Q b (tget T b.toNat) := by
  intro b
  have hb : b.toNat < T.length := by rw [hlen]; exact b.toNat_lt
  have hm : (T[b.toNat], b.toNat) ∈ T.zipIdx := by
    rw [List.mk_mem_zipIdx_iff_getElem?]; simp [hb]
  have := List.all_eq_true.mp h _ hm
  simpa [tget, hb] using this

/-- `forall_tget` with the entry as a variable `v` of the conclusion, so that `Q` is found by unification -/
theorem forall_tget_entry {T : List Nat} {Q : UInt8 → Nat → Prop} [∀ b v, Decidable (Q b v)] (hlen : T.length = 256)
    (h : (T.zipIdx.all fun x => decide (Q (UInt8.ofNat x.2) x.1)) = true) (b : UInt8) (v : Nat)
    (hv : tget T b.toNat = v) : Q b v := hv ▸ forall_tget hlen h b

end AdaVerif.Lemmas
