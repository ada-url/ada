import AdaVerif.Lemmas.Radix
/-
`Spec.natToDec`: its two equations, and that it writes digits which `parseRadix 10` reads back (the converse, for
texts without leading zero, is `Radix.natToDecF_parseRadix`).
-/
namespace AdaVerif.Lemmas
open AdaVerif AdaVerif.Spec

theorem natToDecF_lt (f n : Nat) (h : n < 10) : natToDecF (f + 1) n = [UInt8.ofNat (48 + n)] := by
  rw [natToDecF]; simp only [h, ↓reduceIte]

theorem natToDecF_ge (f n : Nat) (h : ¬ n < 10) :
    natToDecF (f + 1) n = natToDecF f (n / 10) ++ [UInt8.ofNat (48 + n % 10)] := by
  rw [natToDecF]; simp only [h, ↓reduceIte]

theorem digit_facts : ∀ k : Fin 10, isAsciiDigit (UInt8.ofNat (48 + k.val)) = true ∧ digitVal (UInt8.ofNat (48 + k.val)) = k.val := by
  decide +kernel
theorem digit_ok (k : Nat) (h : k < 10) : isAsciiDigit (UInt8.ofNat (48 + k)) = true ∧ digitVal (UInt8.ofNat (48 + k)) = k :=
  digit_facts ⟨k, h⟩

theorem natToDecF_spec (f n : Nat) (h : n < 10 ^ (f + 1)) :
    (natToDecF (f + 1) n).all isAsciiDigit = true ∧ natToDecF (f + 1) n ≠ [] ∧ parseRadix 10 (natToDecF (f + 1) n) = n := by
  have small : ∀ f n, n < 10 → (natToDecF (f + 1) n).all isAsciiDigit = true ∧ natToDecF (f + 1) n ≠ [] ∧
      parseRadix 10 (natToDecF (f + 1) n) = n := by
    intro f n hn
    have hd := digit_ok n hn
    rw [natToDecF_lt f n hn, show parseRadix 10 [UInt8.ofNat (48 + n)] = digitVal (UInt8.ofNat (48 + n)) by simp [parseRadix], hd.2]
    refine ⟨?_, List.cons_ne_nil _ _, rfl⟩
    simp only [List.all_cons, hd.1, List.all_nil, Bool.and_self]
  induction f generalizing n with
  | zero => exact small 0 n (by simpa using h)
  | succ f ih =>
    by_cases hn : n < 10
    · exact small _ n hn
    · have hd : n / 10 < 10 ^ (f + 1) := by
        rw [Nat.pow_succ] at h; omega
      obtain ⟨i1, i2, i3⟩ := ih (n / 10) hd
      have hk := digit_ok (n % 10) (Nat.mod_lt _ (by decide))
      rw [natToDecF_ge _ n hn, Radix.parseRadix_snoc, i3, hk.2]
      refine ⟨?_, by simp, by omega⟩
      simp only [List.all_append, i1, List.all_cons, hk.1, List.all_nil, Bool.and_self]

theorem natToDec_spec (n : Nat) (h : n ≤ 65535) :
    (natToDec n).all isAsciiDigit = true ∧ natToDec n ≠ [] ∧ parseRadix 10 (natToDec n) = n := by
  unfold natToDec
  exact natToDecF_spec 39 n (by omega)

end AdaVerif.Lemmas
