import AdaVerif.Model.ParseValid
import AdaVerif.Lemmas.ParseAggBase
/-
The validation-only instantiation of the parser (Model/ParseValid.lean) gives the verdict of the storing instantiation
(Model/ParseSpecial.lean), without and with a base - and, for a later run, the `type` and `has_opaque_path` of its result.
-/
namespace AdaVerif.Lemmas.PV
open AdaVerif AdaVerif.Spec AdaVerif.Lemmas AdaVerif.Model AdaVerif.Model.ParseSpecial AdaVerif.Model.ParseValid AdaVerif.Model.UrlRec
  AdaVerif.Model.HostParse

def okOf : Out → Bool
  | .invalid => false
  | .ok _ => true

theorem authLoopV_eq (sp : Bool) : ∀ (f : Nat) (v : Bytes) (st : Cred),
    authLoopV sp f v st.atSeen = (authLoop sp f v st).map (·.1) := by
  intro f
  induction f with
  | zero => intro v st; rfl
  | succ f ih =>
    intro v st
    rw [authLoopV]
    by_cases hat : ∃ rest, v.drop (authDelim sp v) = 0x40 :: rest
    · obtain ⟨rest, hdr⟩ := hat
      have := ih rest (absorb st (v.take (authDelim sp v)))
      rw [PA.absorb_atSeen] at this
      rw [PA.authLoop_at sp f v st rest hdr, ← this]
      simp only [hdr]
    · rw [PA.authLoop_other sp f v st (fun rest h => hat ⟨rest, h⟩)]
      split
      · exact absurd ‹_› (fun h => hat ⟨_, h⟩)
      · split <;> rfl

theorem authorityV_eq (sp : Bool) (v : Bytes) : authorityV sp v = (authority sp v).map (·.1) := by
  unfold authorityV authority
  split
  · rfl
  · exact authLoopV_eq sp (v.length + 1) v {}

/-- what a validation-only run sees of the storing run's answer: the verdict, and - for a later run that uses the result as
    its base - scheme and `has_opaque_path` of a result -/
def Sees (o : Out) (valid : Bool) (scheme : Bytes) (opq : Bool) : Prop :=
  okOf o = valid ∧ ∀ r, o = .ok r → r.scheme = scheme ∧ r.opq = opq

theorem sees_ok (r : Rec) : Sees (.ok r) true r.scheme r.opq :=
  ⟨rfl, fun _ h => by injection h with h; subst h; exact ⟨rfl, rfl⟩⟩

theorem sees_invalid (scheme : Bytes) (opq : Bool) : Sees .invalid false scheme opq := ⟨rfl, fun _ h => nomatch h⟩

theorem Sees.out {o : Out} {valid : Bool} {scheme : Bytes} {opq : Bool} (h : Sees o valid scheme opq) (ty : Nat)
    (hty : ty = getSchemeType scheme) : valid = okOf o ∧ ∀ r, o = .ok r → ty = getSchemeType r.scheme ∧ opq = r.opq :=
  ⟨h.1.symm, fun r hr => by obtain ⟨e1, e2⟩ := h.2 r hr; rw [e1, e2]; exact ⟨hty, rfl⟩⟩

theorem finish_sees (sp : Bool) (ty : Nat) (scheme : Bytes) (cred : Cred) (frag : Option Bytes) (h : Bytes) (port : Option Nat) (t : Bytes) :
    Sees (finish sp ty scheme cred frag h port t) true scheme false := by
  unfold finish
  exact sees_ok _

theorem filePath_sees (frag : Option Bytes) (t : Bytes) : Sees (filePath frag t) true bFile false := by
  unfold filePath
  exact sees_ok _

theorem afterAuthority_sees (idna : Idna) (sp : Bool) (ty : Nat) (scheme : Bytes) (frag : Option Bytes) (v : Bytes) (cred : Cred) :
    Sees (afterAuthority idna sp ty scheme frag v cred) (afterAuthorityV idna sp ty v) scheme false := by
  unfold afterAuthorityV afterAuthority
  simp only [HP.parseHostA_eq]
  split
  · cases parseHost idna sp (v.take (getHostDelimiterLocation sp v).1) with
    | none => exact sees_invalid _ _
    | some r =>
      simp only
      cases parsePortTrailing sp (specialPortOf ty) (v.drop ((getHostDelimiterLocation sp v).1 + 1)) with
      | none => exact sees_invalid _ _
      | some pr => exact finish_sees _ _ _ _ _ _ _ _
  · split
    · cases sp
      · exact finish_sees _ _ _ _ _ _ _ _
      · exact sees_invalid _ _
    · cases parseHost idna sp (v.take (getHostDelimiterLocation sp v).1) with
      | none => exact sees_invalid _ _
      | some r => exact finish_sees _ _ _ _ _ _ _ _

theorem afterSlashes_sees (idna : Idna) (sp : Bool) (ty : Nat) (scheme : Bytes) (frag : Option Bytes) (text : Bytes) :
    Sees (afterSlashes idna sp ty scheme frag text) (afterSlashesV idna sp ty text) scheme false := by
  unfold afterSlashesV afterSlashes
  rw [authorityV_eq]
  cases authority sp text with
  | none => exact sees_invalid _ _
  | some r => exact afterAuthority_sees idna sp ty scheme frag r.1 r.2

theorem fileHost_sees (idna : Idna) (frag : Option Bytes) (t : Bytes) :
    Sees (ParseSpecial.fileHost idna frag t) (fileHostV idna t) bFile false := by
  unfold fileHostV ParseSpecial.fileHost
  simp only [HP.parseHostA_eq]
  split
  · exact filePath_sees _ _
  · split
    · exact finish_sees _ _ _ _ _ _ _ _
    · cases parseHost idna true (t.takeWhile (fun c => !(c == 0x2F || c == 0x5C || c == 0x3F))) with
      | none => exact sees_invalid _ _
      | some r => exact finish_sees _ _ _ _ _ _ _ _

theorem afterSchemeFile_sees (idna : Idna) (frag : Option Bytes) (t : Bytes) :
    Sees (afterSchemeFile idna frag t) (fileV idna t) bFile false := by
  unfold fileV afterSchemeFile
  cases t with
  | nil => exact filePath_sees _ _
  | cons c r1 =>
    simp only
    split
    · cases r1 with
      | nil => exact filePath_sees _ _
      | cons c2 r2 =>
        simp only
        split
        · exact fileHost_sees idna frag r2
        · exact filePath_sees _ _
    · exact filePath_sees _ _

theorem afterSchemeNSV_path (idna : Idna) (r : Bytes) (h : r.head? ≠ some 0x2F) : afterSchemeNSV idna (0x2F :: r) = (true, false) := by
  unfold afterSchemeNSV
  split
  · rename_i heq
    injection heq with _ heq
    rw [heq] at h
    exact absurd rfl h
  · rfl
  · rename_i h1 h2
    exact absurd rfl (h2 r)

theorem afterSchemeNSV_opaque (idna : Idna) (rest : Bytes) (h : rest.head? ≠ some 0x2F) : afterSchemeNSV idna rest = (true, true) := by
  unfold afterSchemeNSV
  split
  · exact absurd rfl h
  · exact absurd rfl h
  · rfl

theorem afterSchemeNS_sees (idna : Idna) (scheme : Bytes) (frag : Option Bytes) (rest : Bytes) :
    Sees (afterSchemeNS idna scheme frag rest) (afterSchemeNSV idna rest).1 scheme (afterSchemeNSV idna rest).2 := by
  refine PA.slashCases (fun rest => Sees (afterSchemeNS idna scheme frag rest) (afterSchemeNSV idna rest).1 scheme (afterSchemeNSV idna rest).2)
    (fun r => afterSlashes_sees idna false 1 scheme frag r) (fun r h => ?_) (fun rest' h => ?_) rest
  · rw [PS.afterSchemeNS_path _ _ _ _ h, afterSchemeNSV_path idna r h]
    exact sees_ok _
  · rw [PS.afterSchemeNS_opaque _ _ _ _ h, afterSchemeNSV_opaque idna rest' h]
    unfold opaquePath
    exact sees_ok _

/-- Without a base: the validation-only run gives the verdict of the storing run, and leaves its `type` and
    `has_opaque_path` -/
theorem machine_sees (idna : Idna) (input : Bytes) :
    (machineV idna none input).valid = okOf (machine idna input) ∧
    ∀ r, machine idna input = .ok r →
      (machineV idna none input).ty = getSchemeType r.scheme ∧ (machineV idna none input).opq = r.opq := by
  unfold machineV machine
  generalize prep input = pd
  obtain ⟨d, frag⟩ := pd
  simp only
  cases schemeScan d with
  | none => exact ⟨rfl, fun _ h => nomatch h⟩
  | some nr =>
    obtain ⟨name, rest⟩ := nr
    simp only
    rw [PS.parseSchemeNoOverride_spec]
    simp only [Option.map_none]
    have hnb : ((none : Option Nat) == some (getSchemeType (name.map toLowerByte))) = false := rfl
    simp only [hnb, Bool.and_false, Bool.false_eq_true, ↓reduceIte]
    split
    · exact (afterSchemeFile_sees idna frag rest).out 6 (by decide +kernel)
    · split
      · rename_i h1
        exact (afterSchemeNS_sees idna (name.map toLowerByte) frag rest).out 1 (by simpa using h1 : getSchemeType (name.map toLowerByte) = 1).symm
      · exact (afterSlashes_sees idna true _ (name.map toLowerByte) frag (skipAuthoritySlashes rest)).out _ rfl

theorem machineV_valid (idna : Idna) (input : Bytes) : (machineV idna none input).valid = okOf (machine idna input) :=
  (machine_sees idna input).1

theorem machineV_leaves (idna : Idna) (input : Bytes) (r : Rec) (h : machine idna input = .ok r) :
    (machineV idna none input).ty = getSchemeType r.scheme ∧ (machineV idna none input).opq = r.opq :=
  (machine_sees idna input).2 r h

theorem ok_inherit (b : Rec) (frag : Option Bytes) (p : Bytes) (q : Option Bytes) : okOf (inherit b frag p q) = true := rfl
theorem ok_fileInherit (b : Rec) (frag : Option Bytes) (p : Bytes) (q : Option Bytes) (o : Bool) : okOf (fileInherit b frag p q o) = true := rfl

theorem relativeSlashV_eq (idna : Idna) (b : Rec) (frag : Option Bytes) (r : Bytes) :
    relativeSlashV idna b.special (getSchemeType b.scheme) r = okOf (relativeSlash idna b frag r) := by
  unfold relativeSlashV relativeSlash
  cases r with
  | nil => rfl
  | cons c r' =>
    simp only
    split
    · exact (afterSlashes_sees idna true _ b.scheme frag _).1.symm
    · split
      · exact (afterSlashes_sees idna false _ b.scheme frag _).1.symm
      · rfl

theorem relativeSchemeV_eq (idna : Idna) (b : Rec) (frag : Option Bytes) (t : Bytes) :
    relativeSchemeV idna b.special (getSchemeType b.scheme) t = okOf (relativeScheme idna b frag t) := by
  unfold relativeSchemeV relativeScheme
  cases t with
  | nil => rfl
  | cons c r =>
    simp only
    split
    · exact relativeSlashV_eq idna b frag r
    · split
      · rfl
      · rfl

theorem ok_fileSlashOther (fb : Option Rec) (frag : Option Bytes) (r : Bytes) : okOf (fileSlashOther fb frag r) = true := by
  unfold fileSlashOther
  cases fb with
  | none => exact (filePath_sees frag r).1
  | some b => rfl

theorem ok_fileOther (fb : Option Rec) (frag : Option Bytes) (t : Bytes) : okOf (fileOther fb frag t) = true := by
  unfold fileOther
  cases fb with
  | none => exact (filePath_sees frag t).1
  | some b =>
    cases t with
    | nil => rfl
    | cons c r =>
      simp only
      split <;> rfl

theorem fileV_base (idna : Idna) (fb : Option Rec) (frag : Option Bytes) (t : Bytes) : fileV idna t = okOf (fileB idna fb frag t) := by
  unfold fileV fileB
  cases t with
  | nil => simp [ok_fileOther]
  | cons c r1 =>
    simp only
    split
    · unfold fileSlashB
      cases r1 with
      | nil => simp [ok_fileSlashOther]
      | cons c2 r2 =>
        simp only
        split
        · exact (fileHost_sees idna frag r2).1.symm
        · simp [ok_fileSlashOther]
    · simp [ok_fileOther]

/-- With a base, too: of the base only `type` and `has_opaque_path` matter for the verdict -/
theorem machineV_valid_base (idna : Idna) (b : Rec) (hsp : b.special = (getSchemeType b.scheme != 1)) (input : Bytes) :
    (machineV idna (some (getSchemeType b.scheme, b.opq)) input).valid = okOf (machineB idna b input) := by
  unfold machineV machineB
  cases prep input with
  | mk d frag =>
    simp only
    cases schemeScan d with
    | none =>
      simp only
      split
      · rfl
      · split
        · rfl
        · split
          · rw [← hsp]
            exact relativeSchemeV_eq idna b frag d
          · exact fileV_base idna _ frag d
    | some nr =>
      obtain ⟨name, rest⟩ := nr
      simp only
      rw [PS.parseSchemeNoOverride_spec]
      simp only [Option.map_some]
      have hbeq : ((some (getSchemeType b.scheme) : Option Nat) == some (getSchemeType (name.map toLowerByte))) =
          (getSchemeType b.scheme == getSchemeType (name.map toLowerByte)) := rfl
      rw [hbeq]
      split
      · exact fileV_base idna _ frag rest
      · split
        · -- SPECIAL_RELATIVE_OR_AUTHORITY: the base has the type of the input's scheme, so it is special
          rename_i hrel
          simp only [Bool.and_eq_true, beq_iff_eq] at hrel
          have hspt : b.special = true := by rw [hsp, hrel.2]; exact hrel.1
          split
          · exact (afterSlashes_sees idna true _ _ frag _).1.symm
          · have := relativeSchemeV_eq idna b frag rest
            rw [hspt, hrel.2] at this
            exact this
        · split
          · exact (afterSchemeNS_sees idna _ frag rest).1.symm
          · exact (afterSlashes_sees idna true _ _ frag _).1.symm

theorem parse_noSlash (idna : Idna) (input : Bytes) (u : Url) (h : parse idna input none = some u) : PP.NoSlash u.path :=
  (PAB.parse_ok idna input u h).1

end AdaVerif.Lemmas.PV
