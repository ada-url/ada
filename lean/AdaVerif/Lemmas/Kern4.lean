import AdaVerif.Model.HostKernels
import AdaVerif.Lemmas.FastNumber
import AdaVerif.Lemmas.FastPort
import AdaVerif.Lemmas.Radix
/-
C10: the IPv4 kernels of the implementation against the Standard's IPv4 parser and serializer.
-/
namespace AdaVerif.Lemmas.K4
open AdaVerif AdaVerif.Spec AdaVerif.Lemmas AdaVerif.Model.HostKernels AdaVerif.Model.FastScan

theorem writeU8_eq : ∀ v : Fin 256, writeU8 v.val = natToDec v.val := by decide +kernel

theorem serIpv4_eq (a : Nat) : serIpv4 a = ipv4Serialize a := by
  unfold serIpv4 ipv4Serialize
  rw [writeU8_eq ⟨a / 16777216 % 256, Nat.mod_lt _ (by decide)⟩, writeU8_eq ⟨a / 65536 % 256, Nat.mod_lt _ (by decide)⟩,
    writeU8_eq ⟨a / 256 % 256, Nat.mod_lt _ (by decide)⟩, writeU8_eq ⟨a % 256, Nat.mod_lt _ (by decide)⟩]

structure DigitTables (b : UInt8) : Prop where
  hex : isRadixDigit 16 b = true ↔ hexNibble b ≠ 0xff
  hexVal : isRadixDigit 16 b = true → hexNibble b = digitVal b ∧ hexNibble b < 16
  oct : isRadixDigit 8 b = true ↔ ¬(b.toNat < 0x30 ∨ b.toNat > 0x37)
  octVal : isRadixDigit 8 b = true → digitVal b = b.toNat - 0x30 ∧ b.toNat - 0x30 < 8

theorem digitTables (b : UInt8) : DigitTables b := by
  have sweep : ∀ b : UInt8,
      (isRadixDigit 16 b = true ↔ hexNibble b ≠ 0xff) ∧ (isRadixDigit 16 b = true → hexNibble b = digitVal b ∧ hexNibble b < 16) ∧
      (isRadixDigit 8 b = true ↔ ¬(b.toNat < 0x30 ∨ b.toNat > 0x37)) ∧
      (isRadixDigit 8 b = true → digitVal b = b.toNat - 0x30 ∧ b.toNat - 0x30 < 8) := by
    apply forall_uint8_of_fin; decide +kernel
  exact ⟨(sweep b).1, (sweep b).2.1, (sweep b).2.2.1, (sweep b).2.2.2⟩

theorem dec_facts (b : UInt8) (h : isDigit b = true) : digitVal b = b.toNat - 0x30 ∧ b.toNat - 0x30 < 10 ∧ b ≠ 0x2E := by
  obtain ⟨_, h1, h2, _⟩ := Radix.digit_back b h
  refine ⟨by omega, by omega, ?_⟩
  intro e; subst e; simp at h2; omega

theorem oct_isDigit (b : UInt8) (h : isRadixDigit 8 b = true) : isDigit b = true := by
  have := (digitTables b).oct.mp h
  simp only [isDigit, Bool.and_eq_true, decide_eq_true_eq]
  omega

local notation "stepR" r => (fun (acc : Nat) (b : UInt8) => acc * r + digitVal b)

theorem foldl_mono (r : Nat) (l : Bytes) (a b : Nat) (h : a ≤ b) : l.foldl (stepR r) a ≤ l.foldl (stepR r) b := by
  induction l generalizing a b with
  | nil => exact h
  | cons x t ih => exact ih _ _ (by simp only; exact Nat.add_le_add_right (Nat.mul_le_mul_right _ h) _)

theorem foldl_ge (r : Nat) (hr : 1 ≤ r) (l : Bytes) (a : Nat) : a ≤ l.foldl (stepR r) a := by
  induction l generalizing a with
  | nil => exact Nat.le_refl _
  | cons x t ih =>
    simp only [List.foldl_cons]
    have h1 : a ≤ a * r + digitVal x := by
      have : a * 1 ≤ a * r := Nat.mul_le_mul_left _ hr
      omega
    exact Nat.le_trans h1 (ih _)

def RestOk (rest : Bytes) : Prop := rest = [] ∨ rest.head? = some 0x2E
theorem RestOk.view {rest : Bytes} (h : RestOk rest) : rest = [] ∨ ∃ t, rest = 0x2E :: t := by
  cases rest with
  | nil => exact Or.inl rfl
  | cons c t => exact Or.inr ⟨t, by simpa [RestOk] using h⟩

def NoDot (label : Bytes) : Prop := ∀ b ∈ label, b ≠ 0x2E

def runResult (r : Nat) (label rest : Bytes) (v : Nat) : Option (Nat × Bytes) :=
  if label.all (isRadixDigit r) then
    (if label.foldl (stepR r) v ≤ 0xFFFFFFFF then some (label.foldl (stepR r) v, rest) else none)
  else none

theorem run_stop (run : Bytes → Nat → Option (Nat × Bytes)) (rest : Bytes) (v : Nat) (hr : RestOk rest)
    (hnil : run [] v = some (v, [])) (hdot : ∀ t, run (0x2E :: t) v = some (v, 0x2E :: t)) : run rest v = some (v, rest) := by
  obtain rfl | ⟨t, rfl⟩ := hr.view
  · exact hnil
  · exact hdot t

/-- the three digit loops of `parse_ipv4_number` at once: a loop (with a counter `k`) that takes a digit of radix `r` as
    long as the value fits 32 bits runs through a label without dots, to the Standard's value of the label -/
theorem run_digits {α} (r : Nat) (hr : 1 ≤ r) (run : Nat → Bytes → Nat → Option α)
    (hstep : ∀ k c t v, c ≠ 0x2E → v ≤ 0xFFFFFFFF → run k (c :: t) v =
      if isRadixDigit r c = true ∧ v * r + digitVal c ≤ 0xFFFFFFFF then run (k + 1) t (v * r + digitVal c) else none)
    (label rest : Bytes) (k v : Nat) (hl : NoDot label) (hv : v ≤ 0xFFFFFFFF) :
    run k (label ++ rest) v =
      if label.all (isRadixDigit r) = true ∧ label.foldl (stepR r) v ≤ 0xFFFFFFFF then
        run (k + label.length) rest (label.foldl (stepR r) v)
      else none := by
  induction label generalizing k v with
  | nil => simp [hv]
  | cons c t ih =>
    rw [List.cons_append, hstep k c _ v (hl c (by simp)) hv]
    simp only [List.all_cons, List.foldl_cons, List.length_cons, Bool.and_eq_true]
    by_cases hd : isRadixDigit r c = true
    · by_cases hfit : v * r + digitVal c ≤ 0xFFFFFFFF
      · simp only [hd, hfit, and_self, ↓reduceIte, true_and]
        rw [ih (k + 1) _ (fun b hb => hl b (by simp [hb])) hfit, Nat.add_assoc, Nat.add_comm 1]
      · have hge := foldl_ge r hr t (v * r + digitVal c)
        have : ¬ t.foldl (stepR r) (v * r + digitVal c) ≤ 0xFFFFFFFF := by omega
        simp [hfit, this]
    · simp [hd]

theorem runResult_of (r : Nat) (run : Bytes → Nat → Option (Nat × Bytes)) (label rest : Bytes) (v : Nat) (hr : RestOk rest)
    (hnil : ∀ v, run [] v = some (v, [])) (hdot : ∀ t v, run (0x2E :: t) v = some (v, 0x2E :: t))
    (h : run (label ++ rest) v = if label.all (isRadixDigit r) = true ∧ label.foldl (stepR r) v ≤ 0xFFFFFFFF then
        run rest (label.foldl (stepR r) v) else none) : run (label ++ rest) v = runResult r label rest v := by
  rw [h, run_stop run rest _ hr (hnil _) (fun t => hdot t _), runResult]
  by_cases h1 : label.all (isRadixDigit r) = true
  · simp [h1]
  · simp [h1]

theorem octRun_spec (label rest : Bytes) (v : Nat) (hl : NoDot label) (hr : RestOk rest) (hv : v ≤ 0xFFFFFFFF) :
    octRun (label ++ rest) v = runResult 8 label rest v := by
  refine runResult_of 8 octRun label rest v hr (fun v => rfl) (fun t v => by simp [octRun])
    (run_digits 8 (by decide) (fun _ => octRun) ?_ label rest 0 v hl hv)
  intro _ c t v hc hv
  have hcb : (c == 0x2E) = false := by simpa using hc
  have nf := digitTables c
  simp only [octRun, hcb, Bool.false_eq_true, ↓reduceIte]
  by_cases hd : isRadixDigit 8 c = true
  · have hnot : (decide (c.toNat < 0x30) || decide (c.toNat > 0x37)) = false := by simpa using nf.oct.mp hd
    obtain ⟨hdv, hlt⟩ := nf.octVal hd
    rw [← hdv] at hlt ⊢
    simp only [hnot, hd, true_and, Bool.false_eq_true, ↓reduceIte]
    by_cases hcap : v > 0xFFFFFFFF / 8
    · have : ¬ v * 8 + digitVal c ≤ 0xFFFFFFFF := by omega
      simp [hcap, this]
    · have : v * 8 + digitVal c ≤ 0xFFFFFFFF := by omega
      simp [hcap, this]
  · have hnot : (decide (c.toNat < 0x30) || decide (c.toNat > 0x37)) = true := by
      simpa using Decidable.byContradiction (fun hcon => hd (nf.oct.mpr hcon))
    simp [hnot, hd]

theorem decRun_spec (label rest : Bytes) (v : Nat) (hl : NoDot label) (hr : RestOk rest) (hv : v ≤ 0xFFFFFFFF) :
    decRun (label ++ rest) v = runResult 10 label rest v := by
  refine runResult_of 10 decRun label rest v hr (fun v => rfl) (fun t v => by simp [decRun])
    (run_digits 10 (by decide) (fun _ => decRun) ?_ label rest 0 v hl hv)
  intro _ c t v hc hv
  have hcb : (c == 0x2E) = false := by simpa using hc
  have nf := digitTables c
  simp only [decRun, hcb, Bool.false_eq_true, ↓reduceIte, show isRadixDigit 10 c = isDigit c from rfl]
  by_cases hd : isDigit c = true
  · obtain ⟨hdv, hlt, _⟩ := dec_facts c hd
    rw [← hdv] at hlt ⊢
    simp only [hd, true_and, Bool.not_true, Bool.false_eq_true, ↓reduceIte]
    by_cases hcap : v > 429496729
    · have : ¬ v * 10 + digitVal c ≤ 0xFFFFFFFF := by omega
      simp [hcap, this]
    · by_cases hov : v * 10 + digitVal c > 0xFFFFFFFF
      · have : ¬ v * 10 + digitVal c ≤ 0xFFFFFFFF := by omega
        simp [hcap, hov, this]
      · have : v * 10 + digitVal c ≤ 0xFFFFFFFF := by omega
        simp [hcap, hov, this]
  · simp [hd]

theorem hexRun_spec (label rest : Bytes) (v digits : Nat) (hl : NoDot label) (hr : RestOk rest) (hv : v ≤ 0xFFFFFFFF) :
    hexRun (label ++ rest) v digits = (runResult 16 label rest v).map (fun p => (p.1, digits + label.length, p.2)) := by
  have hstop : ∀ v k, hexRun rest v k = some (v, k, rest) := by
    intro v k
    obtain rfl | ⟨t, rfl⟩ := hr.view
    · rfl
    · simp [hexRun]
  rw [run_digits 16 (by decide) (fun k p v => hexRun p v k) ?_ label rest digits v hl hv, hstop, runResult]
  · by_cases h1 : label.all (isRadixDigit 16) = true
    · by_cases h2 : label.foldl (stepR 16) v ≤ 0xFFFFFFFF <;> simp [h1, h2]
    · simp [h1]
  · intro k c t v hc hv
    have hcb : (c == 0x2E) = false := by simpa using hc
    have nf := digitTables c
    simp only [hexRun, hcb, Bool.false_eq_true, ↓reduceIte]
    by_cases hd : isRadixDigit 16 c = true
    · have hne : (hexNibble c == 0xff) = false := by simpa using nf.hex.mp hd
      obtain ⟨hdv, hlt⟩ := nf.hexVal hd
      rw [hdv] at hlt hne ⊢
      simp only [hne, hd, true_and, Bool.false_eq_true, ↓reduceIte]
      by_cases hcap : v > 0xFFFFFFFF / 16
      · have : ¬ v * 16 + digitVal c ≤ 0xFFFFFFFF := by omega
        simp [hcap, this]
      · have : v * 16 + digitVal c ≤ 0xFFFFFFFF := by omega
        simp [hcap, this]
    · have hne : hexNibble c = 0xff := Decidable.byContradiction (fun hcon => hd (nf.hex.mpr hcon))
      simp [hne, hd]

/-- canonical decimal text: digits only, no leading zero on a multi-digit number -/
def pureDec (label : Bytes) : Bool :=
  label.all isDigit && !(match label with | c0 :: _ :: _ => c0 == 0x30 | _ => false)

theorem hexPrefix_facts : ∀ b : UInt8, ((lo b == 0x78) = (b == 0x78 || b == 0x58)) ∧ (lo b == 0x78 → isDigit b = false ∧ b ≠ 0x2E) := by
  apply forall_uint8_of_fin; decide +kernel

theorem parseRadix_eq_foldl (r : Nat) (t : Bytes) : parseRadix r t = t.foldl (stepR r) 0 := rfl

theorem restOk_cons (c : UInt8) (t rest : Bytes) (hr : RestOk rest) (hc : c ≠ 0x2E) : (c :: t) ++ rest ≠ [] := by simp

/-- parse_ipv4_number reads the Standard's IPv4 number from the text up to the next dot, failing exactly when
    that number does not exist or does not fit 32 bits; the "pure decimal" flag means canonical decimal text -/
theorem parseIpv4Number_spec (label rest : Bytes) (hl : NoDot label) (hr : RestOk rest) :
    parseIpv4Number (label ++ rest) =
      (match ipv4Number label with
       | none => none
       | some v => if v ≤ 0xFFFFFFFF then some (v, pureDec label, rest) else none) := by
  cases label with
  | nil =>
    simp only [List.nil_append, ipv4Number, List.isEmpty_nil, ↓reduceIte]
    obtain rfl | ⟨t, rfl⟩ := hr.view
    · rfl
    · cases t <;> simp [parseIpv4Number, isDigit]
  | cons c0 t0 =>
    have h0 : c0 ≠ 0x2E := hl c0 (by simp)
    cases t0 with
    | nil =>
      rw [show ipv4Number [c0] = if isDigit c0 then some (digitVal c0) else none from Radix.ipv4Number_single c0]
      by_cases hd : isDigit c0 = true
      · obtain ⟨hdv, hlt, _⟩ := dec_facts c0 hd
        have hle : digitVal c0 ≤ 0xFFFFFFFF := by omega
        simp only [hd, ↓reduceIte, hle, pureDec, List.all_cons, List.all_nil, Bool.and_true, Bool.not_false]
        obtain rfl | ⟨t, rfl⟩ := hr.view
        · simp [parseIpv4Number, hd, hdv]
        · have hx : (lo (0x2E : UInt8) == 0x78) = false := by decide
          have hdg : isDigit (0x2E : UInt8) = false := by decide
          simp [parseIpv4Number, hd, hx, hdg, decRun, hdv]
      · have hd' : isDigit c0 = false := by simpa using hd
        simp only [hd', Bool.false_eq_true, ↓reduceIte]
        obtain rfl | ⟨t, rfl⟩ := hr.view
        · simp [parseIpv4Number, hd']
        · have hx : (lo (0x2E : UInt8) == 0x78) = false := by decide
          have hdg : isDigit (0x2E : UInt8) = false := by decide
          have hc0 : (c0 == 0x30) = false := by
            cases hq : (c0 == 0x30) with
            | false => rfl
            | true =>
              have : c0 = 0x30 := by simpa using hq
              subst this; simp [isDigit] at hd'
          simp [parseIpv4Number, hd', hx, hdg, hc0]
    | cons c1 t1 =>
      have h1 : c1 ≠ 0x2E := hl c1 (by simp)
      have hl1 : NoDot t1 := fun b hb => hl b (by simp [hb])
      have hl0 : NoDot (c1 :: t1) := fun b hb => hl b (List.mem_cons_of_mem _ hb)
      have hx := hexPrefix_facts c1
      by_cases hc0 : c0 = 0x30
      · subst hc0
        by_cases hxx : (lo c1 == 0x78) = true
        ·
          have hxx' : (c1 == 0x78 || c1 == 0x58) = true := by rw [← hx.1]; exact hxx
          have hpure : pureDec (0x30 :: c1 :: t1) = false := by
            have := (hx.2 hxx).1
            simp [pureDec, this]
          rw [Radix.ipv4Number_hex c1 t1 hxx', hpure]
          cases t1 with
          | nil =>
            simp only [List.isEmpty_nil, ↓reduceIte, Nat.zero_le]
            obtain rfl | ⟨t, rfl⟩ := hr.view
            · simp [parseIpv4Number, hxx]
            · simp [parseIpv4Number, hxx]
          | cons d t' =>
            have hd : d ≠ 0x2E := hl1 d (by simp)
            have hdb : (d == 0x2E) = false := by simpa using hd
            have hrun := hexRun_spec (d :: t') rest 0 0 hl1 hr (by decide)
            simp only [List.cons_append] at hrun
            simp only [List.cons_append, parseIpv4Number, beq_self_eq_true, hxx, Bool.and_self, ↓reduceIte, hdb,
              Bool.false_eq_true, hrun, List.isEmpty_cons, runResult, parseRadix_eq_foldl]
            by_cases hall : (d :: t').all (isRadixDigit 16) = true
            · simp only [hall, ↓reduceIte, List.foldl_cons, Nat.zero_mul, Nat.zero_add]
              by_cases hfit : t'.foldl (stepR 16) (digitVal d) ≤ 0xFFFFFFFF <;> simp [hfit]
            · have hall' : (d :: t').all (isRadixDigit 16) = false := by simpa using hall
              simp [hall']
        · have hxx' : (lo c1 == 0x78) = false := by simpa using hxx
          have hnx : (c1 == 0x78 || c1 == 0x58) = false := by rw [← hx.1]; exact hxx'
          have hpure : pureDec (0x30 :: c1 :: t1) = false := by simp [pureDec]
          rw [Radix.ipv4Number_oct c1 t1 hnx, hpure]
          by_cases hd1 : isDigit c1 = true
          ·
            have hrun := octRun_spec (c1 :: t1) rest 0 hl0 hr (by decide)
            simp only [List.cons_append] at hrun
            simp only [List.cons_append, parseIpv4Number, beq_self_eq_true, hxx', Bool.and_false, Bool.false_eq_true, ↓reduceIte,
              hd1, Bool.and_self, hrun, runResult, parseRadix_eq_foldl]
            by_cases hall : (c1 :: t1).all (isRadixDigit 8) = true
            · simp only [hall, ↓reduceIte, List.foldl_cons, Nat.zero_mul, Nat.zero_add]
              by_cases hfit : t1.foldl (stepR 8) (digitVal c1) ≤ 0xFFFFFFFF <;> simp [hfit]
            · have hall' : (c1 :: t1).all (isRadixDigit 8) = false := by simpa using hall
              simp [hall']
          · -- "0" followed by something that is neither x nor a digit: no number
            have hd1' : isDigit c1 = false := by simpa using hd1
            have hnotoct : isRadixDigit 8 c1 = false := by
              cases hq : isRadixDigit 8 c1 with
              | false => rfl
              | true => rw [oct_isDigit c1 hq] at hd1'; cases hd1'
            have hc1b : (c1 == 0x2E) = false := by simpa using h1
            have hz : isDigit (0x30 : UInt8) = true := by decide
            simp [parseIpv4Number, hxx', hd1', hz, decRun, hc1b, hnotoct]
      ·
        have hc0b : (c0 == 0x30) = false := by simpa using hc0
        rw [Radix.ipv4Number_decimal c0 c1 t1 hc0]
        by_cases hd0 : isDigit c0 = true
        · obtain ⟨hdv, hlt, _⟩ := dec_facts c0 hd0
          have hrun := decRun_spec (c1 :: t1) rest (c0.toNat - 0x30) hl0 hr (by omega)
          simp only [List.cons_append] at hrun
          have hr10 : isRadixDigit 10 c0 = true := hd0
          simp only [List.cons_append, parseIpv4Number, hc0b, Bool.false_and, Bool.false_eq_true, ↓reduceIte, hd0, Bool.not_true,
            hrun, runResult, parseRadix_eq_foldl, List.all_cons, hr10, Bool.true_and, List.foldl_cons, Nat.zero_mul, Nat.zero_add,
            hdv]
          by_cases hall : (isRadixDigit 10 c1 && t1.all (isRadixDigit 10)) = true
          · have hpure : pureDec (c0 :: c1 :: t1) = true := by
              have e10 : isRadixDigit 10 = isDigit := rfl
              rw [e10, Bool.and_eq_true] at hall
              simp [pureDec, hd0, hall.1, hall.2, hc0b]
            simp only [hall, ↓reduceIte, hpure]
            by_cases hfit : t1.foldl (stepR 10) ((c0.toNat - 0x30) * 10 + digitVal c1) ≤ 0xFFFFFFFF <;> simp [hfit]
          · have hall' : (isRadixDigit 10 c1 && t1.all (isRadixDigit 10)) = false := by simpa using hall
            simp [hall']
        · have hd0' : isDigit c0 = false := by simpa using hd0
          have hr10 : isRadixDigit 10 c0 = false := hd0'
          simp [parseIpv4Number, hc0b, hd0', hr10]

/-- what one label adds to `pure_decimal_count` of `parse_ipv4` -/
def pc1 (l : Bytes) : Nat := if pureDec l then 1 else 0

/-- the loop of `parse_ipv4`, on the list of labels -/
def labelLoop : List Bytes → Nat → Nat → Nat → Option (Nat × Nat)
  | [], _, _, _ => none
  | [l], dc, acc, pc =>
    if dc ≥ 4 then none else
    match ipv4Number l with
    | none => none
    | some v => if v ≥ 2 ^ (32 - dc * 8) then none else some (acc * 2 ^ (32 - dc * 8) + v, pc + pc1 l)
  | l :: m :: more, dc, acc, pc =>
    if dc ≥ 4 then none else
    match ipv4Number l with
    | none => none
    | some v => if v > 255 then none else labelLoop (m :: more) (dc + 1) (acc * 256 + v) (pc + pc1 l)

theorem join_ne_nil (labels : List Bytes) (hne : labels ≠ []) (hlast : labels.getLast hne ≠ []) : joinWith 0x2E labels ≠ [] := by
  match labels, hne, hlast with
  | [l], _, hlast => simpa [joinWith] using hlast
  | l :: m :: more, _, _ => simp [joinWith]

theorem pow_le_32 (dc : Nat) : 2 ^ (32 - dc * 8) ≤ 4294967296 := by
  have : 32 - dc * 8 ≤ 32 := by omega
  calc 2 ^ (32 - dc * 8) ≤ 2 ^ 32 := Nat.pow_le_pow_right (by decide) this
    _ = 4294967296 := by decide

/-- the loop on the text is the loop on the labels (fuel: one turn per part up to `digit_count = 4`, and `parseIpv4`
    starts it with 6) -/
theorem ipv4Loop_eq (labels : List Bytes) (hne : labels ≠ []) (hnd : ∀ l ∈ labels, NoDot l) (hlast : labels.getLast hne ≠ [])
    (fuel dc acc pc : Nat) (hf : dc + fuel ≥ 6) :
    ipv4Loop fuel (joinWith 0x2E labels) dc acc pc = labelLoop labels dc acc pc := by
  induction labels generalizing fuel dc acc pc with
  | nil => exact absurd rfl hne
  | cons l more ih =>
    have hpne : joinWith 0x2E (l :: more) ≠ [] := join_ne_nil _ hne hlast
    have hpemp : (joinWith 0x2E (l :: more)).isEmpty = false := FS.isEmpty_false_of_ne hpne
    cases fuel with
    | zero =>
      -- dc ≥ 6: both sides fail
      have hdc : dc ≥ 4 := by omega
      cases more with
      | nil => simp [ipv4Loop, labelLoop, hdc]
      | cons m more' => simp [ipv4Loop, labelLoop, hdc]
    | succ f =>
      unfold ipv4Loop
      by_cases hdc : dc ≥ 4
      · have hd' : (decide (dc ≥ 4) || (joinWith 0x2E (l :: more)).isEmpty) = true := by simp [hdc]
        simp only [hd', ↓reduceIte, hpemp, Bool.not_false, Bool.or_true]
        cases more with
        | nil => simp [labelLoop, hdc]
        | cons m more' => simp [labelLoop, hdc]
      · have hd' : (decide (dc ≥ 4) || (joinWith 0x2E (l :: more)).isEmpty) = false := by simp [hdc, hpemp]
        simp only [hd', Bool.false_eq_true, ↓reduceIte]
        cases more with
        | nil =>
          have hnum := parseIpv4Number_spec l [] (hnd l (by simp)) (Or.inl rfl)
          simp only [List.append_nil] at hnum
          simp only [joinWith, hnum, labelLoop, hdc, ↓reduceIte]
          cases hq : ipv4Number l with
          | none => rfl
          | some v =>
            simp only
            have hp := pow_le_32 dc
            by_cases hv : v ≤ 0xFFFFFFFF
            · simp only [hv, ↓reduceIte, List.isEmpty_nil, pc1]
              by_cases hb : v ≥ 2 ^ (32 - dc * 8)
              · simp [hb]
              · simp only [hb, ↓reduceIte]
                cases pureDec l <;> simp
            · have : v ≥ 2 ^ (32 - dc * 8) := by omega
              simp [hv, this]
        | cons m more' =>
          have hrest : RestOk (0x2E :: joinWith 0x2E (m :: more')) := Or.inr rfl
          have hnum := parseIpv4Number_spec l (0x2E :: joinWith 0x2E (m :: more')) (hnd l (by simp)) hrest
          have hj : joinWith 0x2E (l :: m :: more') = l ++ 0x2E :: joinWith 0x2E (m :: more') := by simp [joinWith]
          rw [hj, hnum]
          simp only [labelLoop, hdc, ↓reduceIte]
          cases hq : ipv4Number l with
          | none => rfl
          | some v =>
            simp only
            by_cases hv : v ≤ 0xFFFFFFFF
            · simp only [hv, ↓reduceIte, List.isEmpty_cons, Bool.false_eq_true, bne_self_eq_false, Bool.or_false]
              by_cases hb : v > 255
              · simp [hb]
              · simp only [hb, decide_false, Bool.false_eq_true, ↓reduceIte]
                have hne' : (m :: more') ≠ [] := by simp
                have hl' : (m :: more').getLast hne' ≠ [] := by
                  have : (l :: m :: more').getLast hne = (m :: more').getLast hne' := by simp [List.getLast_cons]
                  rw [← this]; exact hlast
                rw [ih hne' (fun x hx => hnd x (by simp [hx])) hl' f (dc + 1) _ _ (by omega)]
                simp only [pc1]
                cases pureDec l <;> simp
            · have : v > 255 := by omega
              simp [hv, this]

theorem pureDec_eq_natToDec (l : Bytes) (v : Nat) (hp : pureDec l = true) (hne : l ≠ []) (hv : ipv4Number l = some v) (h255 : v ≤ 255) :
    l = natToDec v := by
  simp only [pureDec, Bool.and_eq_true, List.all_eq_true, Bool.not_eq_eq_eq_not, Bool.not_true] at hp
  obtain ⟨hd, hlead⟩ := hp
  have hdA : ∀ b ∈ l, isAsciiDigit b = true := fun b hb => hd b hb
  have hnum := FS.ipv4Number_dec l hne hdA (by
    intro c x rest e
    subst e
    intro e2; subst e2; simp at hlead)
  rw [hnum] at hv
  injection hv with hv
  subst hv
  match l, hne, hdA, hlead, h255 with
  | [x], _, hdA, _, _ =>
    obtain ⟨hback, hlt, _⟩ := Radix.digit_back x (hdA x (by simp))
    simp [natToDec, natToDecF, parseRadix, hlt, hback]
  | c0 :: c1 :: rest, _, hdA, hlead, h255 =>
    have hc0 : c0 ≠ 0x30 := by intro e; subst e; simp at hlead
    -- three digits at most: a fourth would make the value at least 1000
    have hlen : (c1 :: rest).length ≤ 2 := by
      have h1 := Radix.pow_le_parseRadix c0 (c1 :: rest) (hdA c0 (by simp)) hc0
      apply Nat.le_of_not_lt
      intro hcon
      have : 10 ^ 3 ≤ 10 ^ (c1 :: rest).length := Nat.pow_le_pow_right (by decide) hcon
      omega
    -- 40 is the fuel of `natToDec`
    exact (Radix.natToDecF_parseRadix 40 _ (by simp) hdA (by simpa using hc0) (by simp at hlen ⊢; omega)).symm

/-- the Standard's IPv4 parser after the split into parts -/
def specParts (parts : List Bytes) : Option Nat :=
  if parts.length > 4 then none else
  match parts.mapM ipv4Number with
  | none => none
  | some numbers =>
    match numbers.getLast? with
    | none => none
    | some last =>
      let front := numbers.dropLast
      if front.any (· > 255) then none
      else if last ≥ 256 ^ (5 - numbers.length) then none
      else some (ipv4Parse.go front 0 last)

theorem ipv4Parse_parts (s : Bytes) :
    ipv4Parse s = specParts (let parts := splitOn 0x2E s
                             if parts.getLast? == some [] && parts.length > 1 then parts.dropLast else parts) := rfl

def pcSum (labels : List Bytes) : Nat := (labels.map pc1).sum

theorem go_cons (v : Nat) (ns : List Nat) (c acc : Nat) : ipv4Parse.go (v :: ns) c acc = ipv4Parse.go ns (c + 1) (acc + v * 256 ^ (3 - c)) := rfl

/-- the loop from any part on: with `dc` parts done and `acc` their value, the remaining labels are the remaining
    numbers of the Standard's parser (`256 ^ (4 - dc)` is the weight of what has been read) -/
theorem labelLoop_gen (labels : List Bytes) (dc acc pc : Nat) (hdc : dc + labels.length ≤ 4) :
    labelLoop labels dc acc pc =
      (match labels.mapM ipv4Number with
       | none => none
       | some nums =>
         match nums.getLast? with
         | none => none
         | some last =>
           if nums.dropLast.any (· > 255) then none
           else if last ≥ 256 ^ (5 - (dc + nums.length)) then none
           else some (ipv4Parse.go nums.dropLast dc (acc * 256 ^ (4 - dc) + last), pc + pcSum labels)) := by
  induction labels generalizing dc acc pc with
  | nil => rfl
  | cons l more ih =>
    have hdc4 : ¬ dc ≥ 4 := by simp at hdc; omega
    cases more with
    | nil =>
      have hp : 2 ^ (32 - dc * 8) = 256 ^ (4 - dc) := by
        rw [show 32 - dc * 8 = 8 * (4 - dc) by omega, Nat.pow_mul]
      simp only [labelLoop, hdc4, ↓reduceIte, List.mapM_cons, List.mapM_nil, hp]
      cases ipv4Number l with
      | none => rfl
      | some v => simp [ipv4Parse.go, pcSum, show 5 - (dc + 1) = 4 - dc by omega]
    | cons m more' =>
      have hlen : dc + 1 + (m :: more').length ≤ 4 := by simp at hdc ⊢; omega
      simp only [labelLoop, hdc4, ↓reduceIte, List.mapM_cons (a := l)]
      cases ipv4Number l with
      | none => rfl
      | some v =>
        simp only [Option.pure_def, Option.bind_eq_bind, Option.bind_some]
        rw [ih (dc + 1) (acc * 256 + v) (pc + pc1 l) hlen]
        cases hnums : (m :: more').mapM ipv4Number with
        | none => split <;> rfl
        | some nums =>
          have hnl := mapM_length _ _ _ hnums
          have hne : nums ≠ [] := by intro e; simp [e] at hnl
          obtain ⟨last, hlast⟩ : ∃ last, nums.getLast? = some last := ⟨_, List.getLast?_eq_some_getLast hne⟩
          have hw : (acc * 256 + v) * 256 ^ (4 - (dc + 1)) = acc * 256 ^ (4 - dc) + v * 256 ^ (3 - dc) := by
            rw [show 4 - (dc + 1) = 3 - dc by omega, show 4 - dc = (3 - dc) + 1 by omega, Nat.pow_succ, Nat.add_mul, Nat.mul_assoc,
              Nat.mul_comm 256]
          simp only [Option.bind_some, List.getLast?_cons, hlast, Option.getD_some, List.dropLast_cons_of_ne_nil hne, List.any_cons,
            go_cons, hw, List.length_cons, pcSum, List.map_cons, List.sum_cons]
          by_cases hv : v > 255
          · simp [hv]
          · simp [hv, Nat.add_assoc, Nat.add_comm, Nat.add_left_comm]

theorem labelLoop_long (labels : List Bytes) (dc acc pc : Nat) (h : dc + labels.length > 4) : labelLoop labels dc acc pc = none := by
  induction labels generalizing dc acc pc with
  | nil => rfl
  | cons l more ih =>
    cases more with
    | nil =>
      have : dc ≥ 4 := by simp at h; omega
      simp [labelLoop, this]
    | cons m more' =>
      simp only [labelLoop]
      split
      · rfl
      · cases ipv4Number l with
        | none => rfl
        | some v =>
          simp only
          split
          · rfl
          · exact ih _ _ _ (by simp at h ⊢; omega)

theorem labelLoop_eq (labels : List Bytes) : labelLoop labels 0 0 0 = (specParts labels).map (fun a => (a, pcSum labels)) := by
  unfold specParts
  by_cases hlen : labels.length > 4
  · simp only [hlen, ↓reduceIte, Option.map_none]
    exact labelLoop_long labels 0 0 0 (by omega)
  · rw [labelLoop_gen labels 0 0 0 (by omega)]
    simp only [hlen, ↓reduceIte]
    cases labels.mapM ipv4Number with
    | none => rfl
    | some nums =>
      simp only
      cases nums.getLast? with
      | none => rfl
      | some last =>
        simp only [Nat.zero_mul, Nat.zero_add]
        split
        · rfl
        · split <;> rfl

theorem ipv4Parse_view (s : Bytes) (hs : s ≠ []) :
    ipv4Parse s = specParts (splitOn 0x2E (if s.getLast? == some 0x2E then s.dropLast else s)) := by
  rw [ipv4Parse_parts]
  by_cases hdot : s.getLast? = some 0x2E
  · have := length_splitOn_pos 0x2E s.dropLast
    simp [hdot, splitOn_of_dot s hdot, this]
  · have := splitOn_last_ne s hs hdot
    simp [hdot, this]

theorem decPart_pure (p : Bytes) (v : Nat) (p' : Bytes) (h : decPart p = some (v, p')) :
    ∃ ds, p = ds ++ p' ∧ ds ≠ [] ∧ pureDec ds = true ∧ ipv4Number ds = some v ∧ v ≤ 255 := by
  obtain ⟨ds, e1, e2, e3, e4, e5, e6⟩ := FS.decPart_lead p v p' h
  refine ⟨ds, e1, e2, ?_, e4, e5⟩
  have hall : ds.all isDigit = true := by
    simp only [List.all_eq_true]; exact fun b hb => e3 b hb
  simp only [pureDec, hall, Bool.true_and, Bool.not_eq_eq_eq_not, Bool.not_true]
  match ds, e6 with
  | [], _ => rfl
  | [_], _ => rfl
  | c0 :: c1 :: rest, e6 => simpa using e6 c0 c1 rest rfl

theorem pc1_le (l : Bytes) : pc1 l ≤ 1 := by unfold pc1; split <;> omega

theorem pcSum_cons (l : Bytes) (t : List Bytes) : pcSum (l :: t) = pc1 l + pcSum t := rfl

theorem pcSum_le (labels : List Bytes) : pcSum labels ≤ labels.length := by
  induction labels with
  | nil => exact Nat.le_refl _
  | cons l t ih =>
    have := pc1_le l
    rw [pcSum_cons, List.length_cons]
    omega

theorem pcSum_full (labels : List Bytes) (h : pcSum labels = labels.length) : ∀ l ∈ labels, pureDec l = true := by
  induction labels with
  | nil => intro l hl; cases hl
  | cons l t ih =>
    have h1 := pc1_le l
    have h2 := pcSum_le t
    rw [pcSum_cons, List.length_cons] at h
    intro x hx
    rcases List.mem_cons.mp hx with rfl | hx
    · cases hq : pureDec x with
      | true => rfl
      | false => simp only [pc1, hq, Bool.false_eq_true, ↓reduceIte] at h; omega
    · exact ih (by omega) x hx

theorem quad_digits (a v1 v2 v3 v4 : Nat) (b1 : v1 ≤ 255) (b2 : v2 ≤ 255) (b3 : v3 ≤ 255) (b4 : v4 ≤ 255)
    (ha : a = v4 + v1 * 16777216 + v2 * 65536 + v3 * 256) :
    a / 16777216 % 256 = v1 ∧ a / 65536 % 256 = v2 ∧ a / 256 % 256 = v3 ∧ a % 256 = v4 := by
  omega

/-- four canonical decimal labels are the serializer's output -/
theorem pc4_text (labels : List Bytes) (a : Nat) (hs : specParts labels = some a) (hp : pcSum labels = 4) :
    joinWith 0x2E labels = ipv4Serialize a := by
  unfold specParts at hs
  split at hs; · cases hs
  rename_i hlen
  have hl4 : labels.length = 4 := by have := pcSum_le labels; omega
  have hpure := pcSum_full labels (hp.trans hl4.symm)
  match labels, hl4, hpure, hs with
  | [l1, l2, l3, l4], _, hpure, hs =>
    simp only [List.mapM_cons, List.mapM_nil] at hs
    cases h1 : ipv4Number l1 with
    | none => simp [h1] at hs
    | some v1 =>
      cases h2 : ipv4Number l2 with
      | none => simp [h1, h2] at hs
      | some v2 =>
        cases h3 : ipv4Number l3 with
        | none => simp [h1, h2, h3] at hs
        | some v3 =>
          cases h4 : ipv4Number l4 with
          | none => simp [h1, h2, h3, h4] at hs
          | some v4 =>
            simp only [h1, h2, h3, h4, Option.pure_def, Option.bind_eq_bind, Option.bind_some, List.getLast?_cons_cons,
              List.getLast?_singleton, List.dropLast_cons₂, List.dropLast_singleton, List.any_cons, List.any_nil, Bool.or_false,
              List.length_cons, List.length_nil] at hs
            split at hs; · cases hs
            rename_i hfront
            split at hs; · cases hs
            rename_i hlastb
            injection hs with hs
            simp only [Bool.or_eq_true, decide_eq_true_eq, not_or] at hfront
            have b1 : v1 ≤ 255 := by omega
            have b2 : v2 ≤ 255 := by omega
            have b3 : v3 ≤ 255 := by omega
            have b4 : v4 ≤ 255 := by simp at hlastb; omega
            have ne : ∀ l v, ipv4Number l = some v → l ≠ [] := by
              intro l v h e; subst e; simp [ipv4Number] at h
            have ha : a = v4 + v1 * 16777216 + v2 * 65536 + v3 * 256 := by
              rw [← hs]; simp [ipv4Parse.go]
            obtain ⟨d1, d2, d3, d4⟩ := quad_digits a v1 v2 v3 v4 b1 b2 b3 b4 ha
            unfold ipv4Serialize
            rw [d1, d2, d3, d4, ← pureDec_eq_natToDec l1 v1 (hpure l1 (by simp)) (ne _ _ h1) h1 b1,
              ← pureDec_eq_natToDec l2 v2 (hpure l2 (by simp)) (ne _ _ h2) h2 b2,
              ← pureDec_eq_natToDec l3 v3 (hpure l3 (by simp)) (ne _ _ h3) h3 b3,
              ← pureDec_eq_natToDec l4 v4 (hpure l4 (by simp)) (ne _ _ h4) h4 b4]
            simp [joinWith]

theorem fast_consistent (t : Bytes) (ip : Nat) (h : ipv4Decimal t = some ip) (hnd : t.getLast? ≠ some 0x2E) :
    ∃ a, specParts (splitOn 0x2E t) = some a ∧ pcSum (splitOn 0x2E t) = 4 := by
  unfold ipv4Decimal at h
  split at h; · cases h
  rename_i va p1 h1
  split at h
  case h_2 => cases h
  rename_i p1'
  split at h; · cases h
  rename_i vb p2 h2
  split at h
  case h_2 => cases h
  rename_i p2'
  split at h; · cases h
  rename_i vc p3 h3
  split at h
  case h_2 => cases h
  rename_i p3'
  split at h; · cases h
  rename_i vd p4 h4
  obtain ⟨da, e1, _, u1, n1, l1⟩ := decPart_pure _ _ _ h1
  obtain ⟨db, e2, _, u2, n2, l2⟩ := decPart_pure _ _ _ h2
  obtain ⟨dc, e3, _, u3, n3, l3⟩ := decPart_pure _ _ _ h3
  obtain ⟨dd, e4, ne4, u4, n4, l4⟩ := decPart_pure _ _ _ h4
  have nodot : ∀ ds : Bytes, pureDec ds = true → (0x2E : UInt8) ∉ ds := by
    intro ds hp hm
    simp only [pureDec, Bool.and_eq_true, List.all_eq_true] at hp
    have := hp.1 _ hm
    simp [isDigit] at this
  have htail : p4 = [] := by
    simp only at h
    split at h
    · rfl
    ·
      exfalso
      apply hnd
      rw [e1, e2, e3, e4]
      have : da ++ 0x2E :: (db ++ 0x2E :: (dc ++ 0x2E :: (dd ++ [0x2E]))) =
          (da ++ 0x2E :: (db ++ 0x2E :: (dc ++ 0x2E :: dd))) ++ [0x2E] := by simp
      rw [this]
      exact List.getLast?_concat
    · cases h
  subst htail
  have hsp : splitOn 0x2E t = [da, db, dc, dd] := by
    rw [e1, e2, e3, e4, List.append_nil, splitOn_append _ _ _ (nodot da u1), splitOn_append _ _ _ (nodot db u2),
      splitOn_append _ _ _ (nodot dc u3), splitOn_no_sep _ _ (nodot dd u4)]
  rw [hsp]
  refine ⟨ipv4Parse.go [va, vb, vc] 0 vd, ?_, by simp [pcSum, pc1, u1, u2, u3, u4]⟩
  have hfront : ([va, vb, vc].any fun x => decide (x > 255)) = false := by
    simp only [List.any_cons, List.any_nil, Bool.or_false, Bool.or_eq_false_iff, decide_eq_false_iff_not]; omega
  have hlast : ¬ vd ≥ 256 ^ (5 - 4) := by simp; omega
  simp [specParts, n1, n2, n3, n4, hfront, hlast]

/-- parse_ipv4 (both twins): on a text that `is_ipv4` lets through, the host it stores is the Standard's IPv4
    parser followed by the Standard's serializer -/
theorem parseIpv4_eq (s : Bytes)
    (hend : (if s.getLast? == some 0x2E then s.dropLast else s).getLast? ≠ some 0x2E) :
    parseIpv4 s = (ipv4Parse s).map ipv4Serialize := by
  unfold parseIpv4
  by_cases hs : s = []
  · subst hs; simp [ipv4Parse_parts, splitOn, specParts, ipv4Number]
  have hse : s.isEmpty = false := FS.isEmpty_false_of_ne hs
  simp only [hse, Bool.false_eq_true, ↓reduceIte]
  have hsp := ipv4Parse_view s hs
  generalize (if s.getLast? == some 0x2E then s.dropLast else s) = t at hend hsp
  by_cases hte : t = []
  · subst hte
    rw [hsp]
    simp [splitOn, specParts, ipv4Number]
  have htemp : t.isEmpty = false := FS.isEmpty_false_of_ne hte
  simp only [htemp, Bool.false_eq_true, ↓reduceIte]
  have hj := FS.join_split 0x2E t
  have hns := FS.split_nosep 0x2E t
  have hne := FS.splitOn_ne_nil 0x2E t
  have hlast : (splitOn 0x2E t).getLast hne ≠ [] := fun e =>
    splitOn_last_ne t hte hend (by rw [List.getLast?_eq_some_getLast hne, e])
  have hloop := ipv4Loop_eq (splitOn 0x2E t) hne (fun l hl b hb e => hns l hl (e ▸ hb)) hlast 6 0 0 0 (by omega)
  rw [hj] at hloop
  rw [hloop, labelLoop_eq, hsp]
  cases hq : specParts (splitOn 0x2E t) with
  | none =>
    simp only [Option.map_none]
    split
    · rename_i hfast
      exfalso
      unfold ipv4Fast at hfast
      split at hfast; · cases hfast
      cases hd : ipv4Decimal t with
      | none => rw [hd] at hfast; cases hfast
      | some ip =>
        obtain ⟨a, ha, _⟩ := fast_consistent t ip hd hend
        rw [hq] at ha; cases ha
    · rfl
  | some a =>
    simp only [Option.map_some]
    have htext : pcSum (splitOn 0x2E t) = 4 → t = ipv4Serialize a := by
      intro hp
      rw [← hj]; exact pc4_text _ a hq hp
    split
    · rename_i hfast
      unfold ipv4Fast at hfast
      split at hfast; · cases hfast
      cases hd : ipv4Decimal t with
      | none => rw [hd] at hfast; cases hfast
      | some ip =>
        obtain ⟨a', ha', hp⟩ := fast_consistent t ip hd hend
        rw [htext hp]
    · by_cases hp : pcSum (splitOn 0x2E t) = 4
      · have hpb : (pcSum (splitOn 0x2E t) == 4) = true := by simpa using hp
        simp only [hpb, ↓reduceIte]
        rw [← htext hp]
      · have : (pcSum (splitOn 0x2E t) == 4) = false := by simpa using hp
        simp only [this, Bool.false_eq_true, ↓reduceIte, serIpv4_eq]

end AdaVerif.Lemmas.K4
