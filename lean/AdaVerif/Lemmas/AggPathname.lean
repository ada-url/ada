import AdaVerif.Model.AggPath
import AdaVerif.Lemmas.AggEditors
/-
`url_aggregator::clear_pathname` commutes with the layout.
-/
namespace AdaVerif.Lemmas.AggL
open AdaVerif AdaVerif.Model.Agg

theorem erasePath_layout (l : L) : erasePath (layout l) = layout { l with path := [] } := by
  unfold erasePath
  rw [pathnameLength_layout]
  simp only [(cut_ps l).serase rfl]
  refine mk_ext ?_ rfl rfl rfl rfl rfl rfl (ss_shift l _ _ rfl ?_) (hh_shift l _ _ rfl ?_) rfl
  · simp only [layout_buf, headS, List.append_assoc, List.append_nil]
  all_goals layout_arith []

/-- `clear_pathname`: the path and a "/." guard go, everything else stays -/
theorem clearPathname_layout (l : L) (h : DashDotOk l) :
    clearPathname (layout l) = layout { l with dashdot := false, path := [] } := by
  unfold clearPathname
  simp only [erasePath_layout]
  rw [dashDotBytes_layout { l with path := [] } (fun hd => (h hd).2.2)]
  cases hd : l.dashdot
  · simp only [Bool.false_eq_true, ↓reduceIte]
  · obtain ⟨_, _, hp⟩ := h hd
    simp only [↓reduceIte]
    exact deleteDashDot_layout { l with dashdot := true, path := [] } rfl hp

theorem isAtPath_of (l : L) (hp : l.path = []) (hq : l.query = none) (hf : l.frag = none) : isAtPath (layout l) = true := by
  unfold isAtPath
  rw [(cut_ps l).buf, (cut_ps l).idx]
  simp [hp, hq, hf, queryS, fragS]

end AdaVerif.Lemmas.AggL
