import AdaVerif.Lemmas.PathTrivial
/-
`helpers::parse_prepared_path` is the Standard's path state: for every input, every scheme type and every path
built so far, the three code paths (trivial / fast / general) produce the serialisation of
`Spec.pathSegments scheme (splitPath special input) path`.
-/
namespace AdaVerif.Lemmas.PP
open AdaVerif AdaVerif.Spec AdaVerif.Lemmas AdaVerif.Lemmas.FP AdaVerif.Model.PathPrepared

/-- how the scheme type of the C++ relates to the scheme of the Spec -/
structure TyOf (scheme : Bytes) (ty : Nat) : Prop where
  file : (ty == 6) = (scheme == bFile)
  special : (ty != 1) = isSpecialScheme scheme

/-- the four tests the C++ makes on the signature, as cleared flags: `acc == 0` (trivial, special scheme),
    `(acc & 13) == 0` (trivial, not special: a backslash is an ordinary byte), `acc == 4` (nothing but dots to look at: the
    "/." scan decides), `(acc & 11) == 0` (fast loop: dots are allowed) -/
theorem sig_masks : ∀ acc : Fin 16,
    (acc.val = 0 → acc.val &&& 1 = 0 ∧ acc.val &&& 2 = 0 ∧ acc.val &&& 4 = 0 ∧ acc.val &&& 8 = 0) ∧
    (acc.val &&& 13 = 0 → acc.val &&& 1 = 0 ∧ acc.val &&& 4 = 0 ∧ acc.val &&& 8 = 0) ∧
    (acc.val = 4 → acc.val &&& 1 = 0 ∧ acc.val &&& 2 = 0 ∧ acc.val &&& 8 = 0) ∧
    (acc.val &&& 11 = 0 → acc.val &&& 1 = 0 ∧ acc.val &&& 2 = 0 ∧ acc.val &&& 8 = 0) := by decide

theorem no_bits (input : Bytes) (acc : Nat) (h : SigFacts input acc) (b : UInt8) (hb : b ∈ input) :
    (acc &&& 1 = 0 → inPath b = false) ∧ (acc &&& 2 = 0 → b ≠ 0x5C) ∧ (acc &&& 4 = 0 → b ≠ 0x2E) ∧ (acc &&& 8 = 0 → b ≠ 0x25) := by
  have hn : ∀ k, Flag k → acc &&& k = 0 → T b ≠ k := fun k hk h0 e => (h.bit k hk).mpr ⟨b, hb, e⟩ h0
  refine ⟨fun h0 => ?_, fun h0 e => hn 2 (by simp [Flag]) h0 (by rw [e]; decide), fun h0 e => hn 4 (by simp [Flag]) h0 (by rw [e]; decide),
    fun h0 e => hn 8 (by simp [Flag]) h0 (by rw [e]; decide)⟩
  rcases T_values b _ rfl with t | t | t | t | t
  · exact absurd t.1 (hn 1 (by simp [Flag]) h0)
  · rw [t.2]; decide
  · rw [t.2]; decide
  · rw [t.2]; decide
  · exact t.2.1

theorem notDot_nodots (input : Bytes) (h : ∀ b ∈ input, b ≠ 0x2E) : ∀ p ∈ splitPath false input, NotDot p := by
  intro p hp
  have hm := splitPath_mem false input p hp
  constructor
  · intro e; subst e; exact h 0x2E (hm _ (by simp)) rfl
  · intro e; subst e; exact h 0x2E (hm _ (by simp)) rfl

theorem notDot_first (input : Bytes) (hh : input.head? ≠ some 0x2E) (hd : dotIsFile input = true) :
    ∀ p ∈ splitPath false input, NotDot p := by
  have h : dotIsFile (0x2F :: input) = true := by
    rw [dotIsFile.eq_3 _ _ (by intro r _ e; subst e; exact hh rfl)]
    exact hd
  have := dotIsFile_tail (0x2F :: input) h
  rw [splitPath_step] at this
  exact this
theorem pathLoops_eq (scheme : Bytes) (ty : Nat) (hty : TyOf scheme ty) (input : Bytes) (segs : List Bytes) (hn : NoSlash segs) :
    pathLoops input ty (pathText segs) = pathText (pathSegments scheme (splitPath (isSpecialScheme scheme) input) segs) := by
  have hsig := sig_facts input
  unfold pathLoops
  simp only
  generalize pathSignature input 0 = acc at hsig ⊢
  obtain ⟨_, _, _, z11⟩ := sig_masks ⟨acc, hsig.lt⟩
  simp only at z11
  rw [hty.special]
  by_cases hfast : (isSpecialScheme scheme && (acc &&& 11) == 0 && ty != 6) = true
  · simp only [hfast, ↓reduceIte]
    simp only [Bool.and_eq_true, beq_iff_eq, bne_iff_ne, ne_eq] at hfast
    obtain ⟨⟨hsp, h11⟩, hn6⟩ := hfast
    obtain ⟨h1, h2, h8⟩ := z11 h11
    have hnf : scheme ≠ bFile := by
      intro e
      have : (ty == 6) = true := by rw [hty.file]; simpa using e
      exact hn6 (by simpa using this)
    rw [fastLoop_eq scheme hnf _ input segs (by omega) hn
      (fun b hb => ⟨(no_bits input acc hsig b hb).1 h1, (no_bits input acc hsig b hb).2.2.2 h8⟩), hsp,
      splitPath_nobs input (fun hm => (no_bits input acc hsig _ hm).2.1 h2 rfl)]
  · simp only [hfast, Bool.false_eq_true, ↓reduceIte]
    rw [slowLoop_eq scheme ty hty.file _ _ _ input segs (by omega) hn]
    · cases hsp : isSpecialScheme scheme with
      | false => simp
      | true =>
        simp only [Bool.true_and]
        by_cases h2 : acc &&& 2 = 0
        · have : ((acc &&& 2) != 0) = false := by simp [h2]
          rw [this, splitPath_nobs input (fun hm => (no_bits input acc hsig _ hm).2.1 h2 rfl)]
        · have : ((acc &&& 2) != 0) = true := by simp [h2]
          rw [this]
    · intro hne b hb
      have : acc &&& 1 = 0 := by simpa using hne
      exact (no_bits input acc hsig b hb).1 this
    · intro hf hbs b hb
      have hsp : isSpecialScheme scheme = true := by rw [hf]; exact special_file
      rw [hsp] at hbs
      have : acc &&& 2 = 0 := by simpa using hbs
      exact (no_bits input acc hsig b hb).2.1 this

theorem trivial_sound (scheme : Bytes) (ty : Nat) (hty : TyOf scheme ty) (input : Bytes) (segs : List Bytes)
    (ht : isTrivial input ty = true) :
    pathText segs ++ [0x2F] ++ input = pathText (pathSegments scheme (splitPath (isSpecialScheme scheme) input) segs) := by
  have hsig := sig_facts input
  unfold isTrivial at ht
  simp only at ht
  generalize pathSignature input 0 = acc at hsig ht
  obtain ⟨z0, z13, z4, _⟩ := sig_masks ⟨acc, hsig.lt⟩
  simp only at z0 z13 z4
  rw [hty.special] at ht
  -- the shortcut is never taken for a file path that starts with a drive letter
  have hmay' : (ty == 6 && Model.PathPrepared.isWindowsDriveLetter input) = false := by
    cases hm : (ty == 6 && Model.PathPrepared.isWindowsDriveLetter input) with
    | false => rfl
    | true => rw [hm] at ht; simp at ht
  have hdrv : scheme = bFile → Model.PathPrepared.isWindowsDriveLetter input = false := by
    intro hf
    have : (ty == 6) = true := by rw [hty.file]; simpa using hf
    rw [this] at hmay'; simpa using hmay'
  rw [hmay'] at ht
  simp only [Bool.not_false, Bool.and_true] at ht
  have triv : ∀ (h1 : acc &&& 1 = 0) (h8 : acc &&& 8 = 0) (hbs : isSpecialScheme scheme = true → acc &&& 2 = 0)
      (hnd : ∀ p ∈ splitPath false input, NotDot p),
      pathText segs ++ [0x2F] ++ input = pathText (pathSegments scheme (splitPath (isSpecialScheme scheme) input) segs) := by
    intro h1 h8 hbs hnd
    rw [trivial_eq scheme input segs (fun b hb => ⟨(no_bits input acc hsig b hb).1 h1, (no_bits input acc hsig b hb).2.2.2 h8⟩)
      (fun hs b hb => (no_bits input acc hsig b hb).2.1 (hbs hs)) hnd hdrv]
    simp
  by_cases h4 : acc = 4
  · subst h4
    obtain ⟨h1, h2, h8⟩ := z4 rfl
    simp only [beq_self_eq_true, ↓reduceIte] at ht
    by_cases hhead : (input.head? != some 0x2E) = true
    · simp only [hhead, ↓reduceIte] at ht
      exact triv h1 h8 (fun _ => h2) (notDot_first input (by simpa using hhead) ht)
    · simp only [hhead, Bool.false_eq_true, ↓reduceIte] at ht
      -- the input starts with '.': the trivial test falls back to `acc == 0`, and `acc` is 4
      exfalso
      split at ht <;> simp at ht
  · have h4' : (acc == 4) = false := by simpa using h4
    simp only [h4', Bool.false_eq_true, ↓reduceIte] at ht
    cases hsp : isSpecialScheme scheme with
    | true =>
      simp only [hsp, ↓reduceIte, beq_iff_eq] at ht
      obtain ⟨h1, h2, h4b, h8⟩ := z0 ht
      rw [← hsp]
      exact triv h1 h8 (fun _ => h2) (notDot_nodots input (fun b hb => (no_bits input acc hsig b hb).2.2.1 h4b))
    | false =>
      simp only [hsp, Bool.false_eq_true, ↓reduceIte, beq_iff_eq] at ht
      obtain ⟨h1, h4b, h8⟩ := z13 ht
      rw [← hsp]
      exact triv h1 h8 (fun hs => by rw [hsp] at hs; cases hs) (notDot_nodots input (fun b hb => (no_bits input acc hsig b hb).2.2.1 h4b))

theorem parsePreparedPath_eq (scheme : Bytes) (ty : Nat) (hty : TyOf scheme ty) (input : Bytes) (segs : List Bytes)
    (hn : NoSlash segs) :
    parsePreparedPath input ty (pathText segs) =
      pathText (pathSegments scheme (splitPath (isSpecialScheme scheme) input) segs) := by
  unfold parsePreparedPath
  split
  · rename_i ht; exact trivial_sound scheme ty hty input segs ht
  · exact pathLoops_eq scheme ty hty input segs hn

end AdaVerif.Lemmas.PP
