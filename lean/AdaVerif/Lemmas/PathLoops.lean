import AdaVerif.Lemmas.PathString
import AdaVerif.Lemmas.Encode
import AdaVerif.Lemmas.HostCanon
/-
The general ("slow") loop of `parse_prepared_path` is the Standard's path state over the segments of the input.
-/
namespace AdaVerif.Lemmas.PP
open AdaVerif AdaVerif.Spec AdaVerif.Lemmas AdaVerif.Lemmas.FP AdaVerif.Model.PathPrepared

theorem cutSeg_split (bs : Bool) : ∀ (l : Bytes),
    (∀ b ∈ (cutSeg bs l).1, b ∈ l ∧ b ≠ 0x2F ∧ (bs = true → b ≠ 0x5C)) ∧
    (match (cutSeg bs l).2 with
     | none => splitPath bs l = [(cutSeg bs l).1]
     | some rest => splitPath bs l = (cutSeg bs l).1 :: splitPath bs rest ∧ rest.length < l.length ∧ ∀ b ∈ rest, b ∈ l)
  | [] => ⟨by simp [cutSeg], by simp [cutSeg, splitPath]⟩
  | b :: t => by
    have ih := cutSeg_split bs t
    by_cases hb : (b == 0x2F || (bs && b == 0x5C)) = true
    · simp only [cutSeg, splitPath, hb, ↓reduceIte]
      exact ⟨by simp, trivial, by simp, fun x hx => by simp [hx]⟩
    · cases hc : cutSeg bs t with
      | mk a r =>
        rw [hc] at ih
        simp only [cutSeg, splitPath, hb, hc, Bool.false_eq_true, ↓reduceIte]
        constructor
        · intro x hx
          rcases List.mem_cons.mp hx with rfl | hx
          · simp only [Bool.or_eq_true, beq_iff_eq, Bool.and_eq_true, not_or, not_and] at hb
            exact ⟨by simp, hb.1, fun e => hb.2 e⟩
          · have := ih.1 x hx
            exact ⟨by simp [this.1], this.2.1, this.2.2⟩
        · cases r with
          | none => simp only at ih ⊢; rw [ih.2]
          | some rest =>
            simp only at ih ⊢
            rw [ih.2.1]
            exact ⟨rfl, by simp; omega, fun x hx => by simp [ih.2.2.2 x hx]⟩
theorem splitPath_mem (sp : Bool) (l : Bytes) : ∀ seg ∈ splitPath sp l, ∀ b ∈ seg, b ∈ l := by
  induction l with
  | nil => intro seg hs b hb; simp [splitPath] at hs; subst hs; simp at hb
  | cons c rest ih =>
    intro seg hs b hb
    simp only [splitPath] at hs
    split at hs
    · rcases List.mem_cons.mp hs with rfl | hs
      · simp at hb
      · exact List.mem_cons_of_mem _ (ih seg hs b hb)
    · cases hsp : splitPath sp rest with
      | nil => exact absurd hsp (splitPath_ne_nil sp rest)
      | cons h tl =>
        rw [hsp] at hs ih
        simp only [List.mem_cons] at hs
        rcases hs with rfl | hs
        · rcases List.mem_cons.mp hb with rfl | hb
          · simp
          · exact List.mem_cons_of_mem _ (ih h (by simp) b hb)
        · exact List.mem_cons_of_mem _ (ih seg (by simp [hs]) b hb)

theorem splitPath_isEmpty (sp : Bool) (t : Bytes) : (splitPath sp t).isEmpty = false := by
  simpa using splitPath_ne_nil sp t

theorem splitPath_nobs (l : Bytes) (h : (0x5C : UInt8) ∉ l) : splitPath true l = splitPath false l := by
  induction l with
  | nil => rfl
  | cons b t ih =>
    have hb : (b == 0x5C) = false := by
      have : b ≠ 0x5C := fun e => h (by simp [e])
      simpa using this
    simp only [splitPath, hb, Bool.and_false, Bool.or_false, Bool.false_and]
    rw [ih (fun hm => h (by simp [hm]))]

theorem pathText_isEmpty (segs : List Bytes) : (pathText segs).isEmpty = segs.isEmpty := by
  cases segs <;> simp [pathText]

theorem noSlash_snoc (segs : List Bytes) (x : Bytes) (hn : NoSlash segs) (hx : (0x2F : UInt8) ∉ x) : NoSlash (segs ++ [x]) := by
  intro s hs
  rcases List.mem_append.mp hs with hs | hs
  · exact hn s hs
  · simp at hs; subst hs; exact hx

theorem noSlash_shorten (scheme : Bytes) (segs : List Bytes) (hn : NoSlash segs) : NoSlash (Spec.shortenPath scheme segs) := by
  unfold Spec.shortenPath
  split
  · split
    · exact hn
    · intro s hs; simp at hs
  · exact fun s hs => hn s (List.dropLast_subset _ hs)

/-- the starts-with drive-letter test of the code is the Standard's exact test on a segment without delimiters -/
theorem driveLetter_eq (enc : Bytes) (h : ∀ b ∈ enc, b ≠ 0x2F ∧ b ≠ 0x5C ∧ b ≠ 0x3F ∧ b ≠ 0x23) :
    Model.PathPrepared.isWindowsDriveLetter enc = Spec.isWindowsDriveLetter enc := by
  unfold Model.PathPrepared.isWindowsDriveLetter Spec.isWindowsDriveLetter
  match enc, h with
  | [], _ => rfl
  | [_], _ => rfl
  | [a, b], _ => simp [isAlpha_model_eq]
  | a :: b :: c :: rest, h =>
    have hc := h c (by simp)
    have e1 : (c == 0x2F) = false := by simpa using hc.1
    have e2 : (c == 0x5C) = false := by simpa using hc.2.1
    have e3 : (c == 0x3F) = false := by simpa using hc.2.2.1
    have e4 : (c == 0x23) = false := by simpa using hc.2.2.2
    simp [e1, e2, e3, e4]

/-- One iteration of the general loop.  The left side is the `let path := …` of `slowLoop` with `enc` for the cut-off, encoded
    segment and `pathText segs` for the path so far; `P` is what one step of `Spec.pathSegments` makes of `segs` -/
theorem step_eq (scheme : Bytes) (ty : Nat) (hty : (ty == 6) = (scheme == bFile)) (enc : Bytes) (isLast : Bool) (segs : List Bytes) :
    NoSlash segs → (0x2F : UInt8) ∉ enc →
    (scheme = bFile → Model.PathPrepared.isWindowsDriveLetter enc = Spec.isWindowsDriveLetter enc) →
    let P := (if Spec.isDoubleDot enc then
        (if isLast then Spec.shortenPath scheme segs ++ [[]] else Spec.shortenPath scheme segs)
      else if Spec.isSingleDot enc then (if isLast then segs ++ [[]] else segs)
      else segs ++ [if (scheme == bFile && segs.isEmpty && Spec.isWindowsDriveLetter enc) = true then
          (match enc with | [a, _] => [a, 0x3A] | _ => enc) else enc])
    (if Model.PathPrepared.isDoubleDot enc then
        (if isLast then Model.PathPrepared.shortenPath (pathText segs) ty ++ [0x2F] else Model.PathPrepared.shortenPath (pathText segs) ty)
      else if Model.PathPrepared.isSingleDot enc && isLast then pathText segs ++ [0x2F]
      else if !Model.PathPrepared.isSingleDot enc then
        (if ty == 6 && (pathText segs).isEmpty && Model.PathPrepared.isWindowsDriveLetter enc then
          pathText segs ++ [0x2F] ++ [enc.getD 0 0, 0x3A] ++ enc.drop 2
        else pathText segs ++ [0x2F] ++ enc)
      else pathText segs) = pathText P ∧ NoSlash P := by
  intro hn henc hdrv0
  have hdrv : (scheme == bFile && segs.isEmpty && Model.PathPrepared.isWindowsDriveLetter enc) =
      (scheme == bFile && segs.isEmpty && Spec.isWindowsDriveLetter enc) := by
    by_cases hf : scheme = bFile
    · rw [hdrv0 hf]
    · have : (scheme == bFile) = false := by simpa using hf
      simp [this]
  simp only [doubleDot_eq, singleDot_eq, shortenPath_eq scheme ty hty segs hn, hty, pathText_isEmpty, hdrv]
  have hsn := noSlash_shorten scheme segs hn
  by_cases hdd : Spec.isDoubleDot enc = true
  · simp only [hdd, ↓reduceIte]
    cases isLast with
    | true => simp only [↓reduceIte]; exact ⟨by rw [pathText_snoc], noSlash_snoc _ _ hsn (by simp)⟩
    | false => exact ⟨by simp, hsn⟩
  · have hdd' : Spec.isDoubleDot enc = false := by simpa using hdd
    simp only [hdd', Bool.false_eq_true, ↓reduceIte]
    by_cases hsd : Spec.isSingleDot enc = true
    · simp only [hsd, Bool.true_and, ↓reduceIte, Bool.not_true, Bool.false_eq_true]
      cases isLast with
      | true => simp only [↓reduceIte]; exact ⟨by rw [pathText_snoc], noSlash_snoc _ _ hn (by simp)⟩
      | false => exact ⟨by simp, hn⟩
    · have hsd' : Spec.isSingleDot enc = false := by simpa using hsd
      simp only [hsd', Bool.false_and, Bool.false_eq_true, ↓reduceIte, Bool.not_false]
      by_cases hc : (scheme == bFile && segs.isEmpty && Spec.isWindowsDriveLetter enc) = true
      · have hw : Spec.isWindowsDriveLetter enc = true := by
          simp only [Bool.and_eq_true] at hc; exact hc.2
        unfold Spec.isWindowsDriveLetter at hw
        split at hw
        · rename_i a b
          simp only [hc, ↓reduceIte]
          refine ⟨by rw [pathText_snoc]; simp, noSlash_snoc _ _ hn ?_⟩
          intro hm
          simp only [List.mem_cons, List.not_mem_nil, or_false] at hm
          rcases hm with e | e
          · exact henc (by rw [← e]; simp)
          · cases e
        · cases hw
      · have hc' : (scheme == bFile && segs.isEmpty && Spec.isWindowsDriveLetter enc) = false := by simpa using hc
        simp only [hc', Bool.false_eq_true, ↓reduceIte]
        exact ⟨by rw [pathText_snoc]; simp, noSlash_snoc _ _ hn henc⟩

theorem buf_eq (needsEnc : Bool) (view : Bytes) (h : needsEnc = false → ∀ b ∈ view, inPath b = false) :
    (if needsEnc then (Model.percentEncodeInto false Gen.pathSet view []).getD view else view) =
      Spec.percentEncode inPath view := by
  cases needsEnc with
  | false => simp only [Bool.false_eq_true, ↓reduceIte]; exact (FP.percentEncode_id _ _ (h rfl)).symm
  | true =>
    simp only [↓reduceIte]
    cases hq : Model.percentEncodeInto false Gen.pathSet view [] with
    | none =>
      have := percentEncodeInto_none false Gen.pathSet view [] hq
      rw [bitAt_pathSet] at this
      simp only [Option.getD_none]; exact this.symm
    | some o =>
      have := percentEncodeInto_some false Gen.pathSet view [] o hq
      rw [bitAt_pathSet] at this
      simpa using this

theorem enc_bytes (view : Bytes) (hv : ∀ b ∈ view, b ≠ 0x2F) (hbs : ∀ b ∈ view, b ≠ 0x5C) :
    ∀ b ∈ Spec.percentEncode inPath view, b ≠ 0x2F ∧ b ≠ 0x5C ∧ b ≠ 0x3F ∧ b ≠ 0x23 := by
  intro b hb
  rcases HC.mem_percentEncode inPath view b hb with h | h
  · have : b ≠ 0x3F ∧ b ≠ 0x23 := by
      have hp := h.2
      constructor <;> (rintro rfl; revert hp; decide)
    exact ⟨hv b h.1, hbs b h.1, this.1, this.2⟩
  · have := HC.pctb_facts b h
    exact ⟨this.2.2.2.2.2.2.2.1, this.2.2.2.2.2.2.2.2.1, this.2.2.2.2.2.2.2.2.2.1, this.2.2.2.2.2.2.2.2.2.2⟩

theorem slowLoop_eq (scheme : Bytes) (ty : Nat) (hty : (ty == 6) = (scheme == bFile)) (bs needsEnc : Bool)
    (fuel : Nat) (input : Bytes) (segs : List Bytes) (hf : input.length < fuel) (hn : NoSlash segs)
    (henc : needsEnc = false → ∀ b ∈ input, inPath b = false)
    (hbsl : scheme = bFile → bs = false → ∀ b ∈ input, b ≠ 0x5C) :
    slowLoop fuel ty bs needsEnc input (pathText segs) = pathText (pathSegments scheme (splitPath bs input) segs) := by
  induction fuel generalizing input segs with
  | zero => omega
  | succ f ih =>
    unfold slowLoop
    obtain ⟨hfst, hsp⟩ := cutSeg_split bs input
    cases hc : cutSeg bs input with
    | mk view more =>
      rw [hc] at hfst hsp
      simp only at hfst hsp
      have hbuf := buf_eq needsEnc view (fun hne b hb => henc hne b (hfst b hb).1)
      have hvb : scheme = bFile → ∀ b ∈ view, b ≠ 0x5C := by
        intro hfile b hb
        cases hbs : bs with
        | true => exact (hfst b hb).2.2 hbs
        | false => exact hbsl hfile hbs b (hfst b hb).1
      have henc_ns : (0x2F : UInt8) ∉ Spec.percentEncode inPath view := by
        intro hm
        rcases HC.mem_percentEncode inPath view _ hm with h | h
        · exact (hfst _ h.1).2.1 rfl
        · exact (HC.pctb_facts _ h).2.2.2.2.2.2.2.1 rfl
      have hstep := step_eq scheme ty hty (Spec.percentEncode inPath view) more.isNone segs hn henc_ns
        (fun hfile => driveLetter_eq _ (enc_bytes view (fun b hb => (hfst b hb).2.1) (hvb hfile)))
      simp only at hstep
      simp only [hbuf]
      cases more with
      | none =>
        rw [show splitPath bs input = [view] from hsp]
        simp only [Option.isNone_none] at hstep ⊢
        rw [hstep.1]
        unfold pathSegments
        simp only [List.isEmpty_nil, pathSegments]
        rfl
      | some rest =>
        obtain ⟨h1, h2, h3⟩ := hsp
        rw [h1]
        simp only [Option.isNone_some] at hstep ⊢
        rw [hstep.1]
        have hne := splitPath_isEmpty bs rest
        rw [ih rest _ (by omega) hstep.2 (fun hne' b hb => henc hne' b (h3 b hb)) (fun hfile hb0 b hb => hbsl hfile hb0 b (h3 b hb))]
        conv => rhs; unfold pathSegments
        simp only [hne]
        rfl

end AdaVerif.Lemmas.PP
