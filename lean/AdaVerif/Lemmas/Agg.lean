import AdaVerif.Model.Agg
/-
The std::string primitives of the single buffer (`sinsert`, `serase`, `sresize`, `at_`, `slice`,
`replaceAndResize`) on a buffer that is known as "prefix ++ suffix" with the index at the seam: `Cut`.
Every editor proof reads its buffer operations through these lemmas.
-/
namespace AdaVerif.Lemmas.AggL
open AdaVerif AdaVerif.Model.Agg

theorem take_peel0 (A B : Bytes) : (A ++ B).take A.length = A := List.take_left' rfl
theorem drop_peel0 (A B : Bytes) : (A ++ B).drop A.length = B := List.drop_left' rfl
theorem drop_peel (A B : Bytes) (n : Nat) : (A ++ B).drop (A.length + n) = B.drop n := by
  rw [← List.drop_drop, drop_peel0]
theorem take_peel (A B : Bytes) (n : Nat) : (A ++ B).take (A.length + n) = A ++ B.take n := by
  rw [List.take_append, List.take_of_length_le (by omega), Nat.add_sub_cancel_left]
theorem at_peel (A B : Bytes) (n : Nat) : at_ (A ++ B) (A.length + n) = at_ B n := by
  simp [at_, List.getD_eq_getElem?_getD, List.getElem?_append_right]

@[simp] theorem at_cons_zero (a : UInt8) (l : Bytes) : at_ (a :: l) 0 = a := rfl
@[simp] theorem at_cons_succ (a : UInt8) (l : Bytes) (n : Nat) : at_ (a :: l) (n + 1) = at_ l n := rfl
@[simp] theorem at_nil (n : Nat) : at_ [] n = 0 := by simp [at_]
theorem at_zero (l : Bytes) : at_ l 0 = l.headD 0 := by cases l <;> simp [at_]

structure Cut (b : Bytes) (i : Nat) (A B : Bytes) : Prop where
  buf : b = A ++ B
  idx : i = A.length

namespace Cut
variable {b A M B : Bytes} {i j n : Nat}

theorem sinsert (h : Cut b i A B) (x : Bytes) : sinsert b i x = A ++ (x ++ B) := by
  rw [h.buf, h.idx, Model.Agg.sinsert, take_peel0, drop_peel0, List.append_assoc]

theorem serase (h : Cut b i A (M ++ B)) (hn : n = M.length) : serase b i n = A ++ B := by
  rw [h.buf, h.idx, hn, Model.Agg.serase, take_peel0, drop_peel, drop_peel0]

theorem sresize (h : Cut b i A B) : sresize b i = A := by
  rw [h.buf, h.idx, Model.Agg.sresize, take_peel0]

theorem at_add (h : Cut b i A B) (n : Nat) : at_ b (i + n) = at_ B n := by
  rw [h.buf, h.idx, at_peel]

theorem at_ (h : Cut b i A B) : at_ b i = B.headD 0 := by
  rw [← at_zero, ← h.at_add 0, Nat.add_zero]

theorem slice (h : Cut b i A (M ++ B)) (hj : j = i + M.length) : slice b i j = M := by
  rw [h.buf, hj, h.idx, Model.Agg.slice, take_peel, drop_peel0, take_peel0]

theorem drop (h : Cut b i A B) : b.drop i = B := by
  rw [h.buf, h.idx, drop_peel0]

theorem next (h : Cut b i A (M ++ B)) (hj : j = i + M.length) : Cut b j (A ++ M) B :=
  ⟨by rw [h.buf, List.append_assoc], by rw [hj, h.idx, List.length_append]⟩

theorem after (hi : i = A.length) (x : Bytes) (hj : j = i + x.length) : Cut (A ++ (x ++ B)) j (A ++ x) B :=
  next ⟨rfl, hi⟩ hj

/-- all four branches of `replace_and_resize` write "prefix ++ input ++ suffix" -/
theorem replaceAndResize (h : Cut b i A (M ++ B)) (hj : j = i + M.length) (x : Bytes) :
    replaceAndResize b i j x = (A ++ (x ++ B), (x.length : Int) - (M.length : Int)) := by
  have hcur : j - i = M.length := by omega
  unfold Model.Agg.replaceAndResize
  simp only [hcur]
  refine Prod.ext ?_ rfl
  simp only
  split
  · rename_i h0
    have : M = [] := List.eq_nil_of_length_eq_zero (by simpa using h0)
    subst this; exact h.sinsert x
  split
  · rename_i h1
    have h1 : x.length = M.length := by simpa using h1
    rw [h.buf, h.idx, take_peel0, h1, drop_peel, drop_peel0, List.append_assoc]
  split
  · -- the first `M.length - x.length` bytes of `M` are erased, the rest overwritten
    have hM : M = M.take (M.length - x.length) ++ M.drop (M.length - x.length) := (List.take_append_drop _ _).symm
    have hl : (M.drop (M.length - x.length)).length = x.length := by simp; omega
    have hc : Cut b i A (M.take (M.length - x.length) ++ (M.drop (M.length - x.length) ++ B)) := by
      rw [← List.append_assoc, ← hM]; exact h
    have e := drop_peel0 (M.drop (M.length - x.length)) B
    rw [hl] at e
    rw [hc.serase (by simp), h.idx, take_peel0, drop_peel, e, List.append_assoc]
  · -- `M` is overwritten by the front of `x`, the rest of `x` inserted behind it
    have hl : (x.take M.length).length = M.length := by simp; omega
    rw [h.buf, h.idx, take_peel0, drop_peel, drop_peel0, List.append_assoc,
      (after rfl (x.take M.length) (by rw [hl])).sinsert, List.append_assoc, ← List.append_assoc (x.take _),
      List.take_append_drop]

end Cut

theorem sinsert_at {A B x : Bytes} {i : Nat} (h : i = A.length) : sinsert (A ++ B) i x = A ++ x ++ B := by
  rw [(Cut.mk rfl h).sinsert, List.append_assoc]

theorem sinsert_zero (b x : Bytes) : sinsert b 0 x = x ++ b := (Cut.mk (A := []) rfl rfl).sinsert x

theorem sinsert_end (b x : Bytes) (i : Nat) (h : i = b.length) : sinsert b i x = b ++ x := by
  rw [(Cut.mk (B := []) (List.append_nil b).symm h).sinsert, List.append_nil]

theorem serase_at {A M B : Bytes} {i n : Nat} (hi : i = A.length) (hn : n = M.length) :
    serase (A ++ (M ++ B)) i n = A ++ B := (Cut.mk rfl hi).serase hn

theorem sresize_eq {b A B : Bytes} {n : Nat} (hb : b = A ++ B) (h : n = A.length) : sresize b n = A :=
  (Cut.mk hb h).sresize

theorem replaceAndResize_eq (b x : Bytes) (start stop : Nat) (h1 : start ≤ stop) (h2 : stop ≤ b.length) :
    replaceAndResize b start stop x = (b.take start ++ (x ++ b.drop stop), (x.length : Int) - ((stop - start : Nat) : Int)) := by
  have hl : ((b.drop start).take (stop - start)).length = stop - start := by simp; omega
  have hc : Cut b start (b.take start) ((b.drop start).take (stop - start) ++ b.drop stop) := by
    refine ⟨?_, by simp; omega⟩
    conv => lhs; rw [← List.take_append_drop start b, ← List.take_append_drop (stop - start) (b.drop start)]
    rw [List.drop_drop, Nat.add_sub_cancel' h1]
  rw [hc.replaceAndResize (by omega), hl]

/-- the wrap-around `uint32_t` computation `o += d` coincides with the integer one while everything
    stays below 2^32 -/
theorem shift_uint32 (o : Nat) (d : Int) (ho : o < 2 ^ 32) (h0 : 0 ≤ (o : Int) + d) (h1 : (o : Int) + d < 2 ^ 32) :
    (((o : Int) + d % 2 ^ 32) % 2 ^ 32).toNat = shift o d := by
  unfold shift
  have : ((o : Int) + d % 2 ^ 32) % 2 ^ 32 = (o : Int) + d := by
    rw [Int.add_emod, Int.emod_emod, ← Int.add_emod]
    exact Int.emod_eq_of_lt h0 h1
  rw [this]

theorem shift_eq {o n : Nat} {d : Int} (h : (o : Int) + d = n) : shift o d = n := by
  unfold shift; omega

theorem shiftO_eq {c : Bool} {o n : Nat} {d : Int} (h : (o : Int) + d = n) :
    shiftO (if c = true then some o else none) d = if c = true then some n else none := by
  cases c
  · rfl
  · exact congrArg some (shift_eq h)

end AdaVerif.Lemmas.AggL
