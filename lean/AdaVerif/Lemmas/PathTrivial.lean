import AdaVerif.Lemmas.PathFast
import AdaVerif.Lemmas.ParseCanon
/-
The "trivial path" shortcut of `parse_prepared_path`: when the signature says that nothing has to be encoded or
removed, appending "/" + input is what the path state does.
-/
namespace AdaVerif.Lemmas.PP
open AdaVerif AdaVerif.Spec AdaVerif.Lemmas AdaVerif.Lemmas.FP AdaVerif.Model.PathPrepared

theorem pathText_split (l : Bytes) : pathText (splitPath false l) = 0x2F :: l := by
  induction l with
  | nil => rfl
  | cons b t ih =>
    simp only [splitPath, Bool.false_and, Bool.or_false]
    split
    · rename_i hb
      have : b = 0x2F := by simpa using hb
      subst this
      simp only [pathText, List.flatMap_cons, List.append_nil] at ih ⊢
      simp [ih]
    · cases hsp : splitPath false t with
      | nil => exact absurd hsp (splitPath_ne_nil false t)
      | cons h tl =>
        rw [hsp] at ih
        simp only [pathText, List.flatMap_cons] at ih ⊢
        simp only [List.cons_append, List.cons.injEq, true_and] at ih ⊢
        exact ih

theorem pathText_append (a b : List Bytes) : pathText (a ++ b) = pathText a ++ pathText b := by
  simp [pathText, List.flatMap_append]

def NotDot (p : Bytes) : Prop := p ≠ [0x2E] ∧ p ≠ [0x2E, 0x2E]

theorem splitPath_step (sp : Bool) (b : UInt8) (rest : Bytes) :
    splitPath sp (b :: rest) = if b == 0x2F || (sp && b == 0x5C) then [] :: splitPath sp rest
      else (b :: (splitPath sp rest).headD []) :: (splitPath sp rest).tail := by
  cases h : splitPath sp rest with
  | nil => exact absurd h (splitPath_ne_nil sp rest)
  | cons q tl => simp [splitPath, h]

theorem splitPath_first (sp : Bool) (l p0 : Bytes) (tl : List Bytes) (h : splitPath sp l = p0 :: tl) :
    l = p0 ∨ ∃ c r, l = p0 ++ c :: r ∧ isSep sp c = true := by
  induction l generalizing p0 tl with
  | nil => simp [splitPath] at h; left; exact h.1.symm
  | cons b t ih =>
    rw [splitPath_step] at h
    split at h
    · rename_i hb
      injection h with h1 _
      subst h1
      right; exact ⟨b, t, rfl, by simpa [isSep] using hb⟩
    · injection h with h1 _
      subst h1
      cases hsp : splitPath sp t with
      | nil => exact absurd hsp (splitPath_ne_nil sp t)
      | cons q tl' =>
        rcases ih q tl' hsp with e | ⟨c, r, e, hc⟩
        · left; rw [e]; rfl
        · right; exact ⟨c, r, by rw [e]; rfl, hc⟩

theorem dotIsFile_rest (x : UInt8) (rest : Bytes) (h : dotIsFile (x :: rest) = true) : dotIsFile rest = true := by
  by_cases hc : ∃ r, x = 0x2F ∧ rest = 0x2E :: r
  · obtain ⟨r, rfl, rfl⟩ := hc
    rw [dotIsFile.eq_3 _ _ (by intro r e; cases e)]
    cases r with
    | nil => rfl
    | cons c t =>
      rw [dotIsFile.eq_2, Bool.and_eq_true] at h
      exact h.2
  · rw [dotIsFile.eq_3 _ _ (fun r e1 e2 => hc ⟨r, e1, e2⟩)] at h
    exact h

theorem first_notDot (rest q0 : Bytes) (tl : List Bytes) (h : dotIsFile (0x2F :: rest) = true) (hsp : splitPath false rest = q0 :: tl) :
    NotDot q0 := by
  -- `rest` is the piece itself or the piece followed by a '/': in all four cases the scan sees "/." and then '.', '/' or the end
  constructor
  · rintro rfl
    rcases splitPath_first false rest _ tl hsp with rfl | ⟨c, r, rfl, hc⟩
    · simp [dotIsFile] at h
    · simp [isSep] at hc; subst hc; simp [dotIsFile] at h
  · rintro rfl
    rcases splitPath_first false rest _ tl hsp with rfl | ⟨c, r, rfl, hc⟩
    · simp [dotIsFile] at h
    · simp [dotIsFile] at h

theorem dotIsFile_tail (l : Bytes) (h : dotIsFile l = true) : ∀ p ∈ (splitPath false l).tail, NotDot p := by
  induction l with
  | nil => intro p hp; simp [splitPath] at hp
  | cons x rest ih =>
    have hrest := dotIsFile_rest x rest h
    rw [splitPath_step]
    by_cases hx : x = 0x2F
    · subst hx
      simp only [beq_self_eq_true, Bool.true_or, ↓reduceIte, List.tail_cons]
      cases hsp : splitPath false rest with
      | nil => exact absurd hsp (splitPath_ne_nil false rest)
      | cons q0 tl =>
        intro p hp
        rcases List.mem_cons.mp hp with rfl | hp
        · exact first_notDot rest p tl h hsp
        · exact ih hrest p (by rw [hsp]; exact hp)
    · have hx' : (x == 0x2F) = false := by simpa using hx
      simp only [hx', Bool.false_and, Bool.or_false, Bool.false_eq_true, ↓reduceIte, List.tail_cons]
      exact ih hrest

/-- a first piece that is a drive letter makes the starts-with test of the C++ fire on the whole text -/
theorem first_drive (sp : Bool) (l p0 : Bytes) (tl : List Bytes) (h : splitPath sp l = p0 :: tl)
    (hd : Spec.isWindowsDriveLetter p0 = true) : Model.PathPrepared.isWindowsDriveLetter l = true := by
  unfold Spec.isWindowsDriveLetter at hd
  split at hd
  · rename_i a b
    rcases splitPath_first sp l [a, b] tl h with e | ⟨c, r, e, hc⟩
    · subst e
      simpa [Model.PathPrepared.isWindowsDriveLetter, isAlpha_model_eq] using hd
    · subst e
      simp only [isSep, Bool.or_eq_true, beq_iff_eq, Bool.and_eq_true] at hc
      have hc' : (c == 0x2F || c == 0x5C || c == 0x3F || c == 0x23) = true := by
        rcases hc with e | e
        · simp [e]
        · simp [e.2]
      simp only [Bool.and_eq_true] at hd
      simp [Model.PathPrepared.isWindowsDriveLetter, isAlpha_model_eq, hd.1, hd.2, hc']
  · cases hd

theorem trivial_eq (scheme : Bytes) (input : Bytes) (segs : List Bytes)
    (hplain : ∀ b ∈ input, inPath b = false ∧ b ≠ 0x25)
    (hbs : isSpecialScheme scheme = true → ∀ b ∈ input, b ≠ 0x5C)
    (hnd : ∀ p ∈ splitPath false input, NotDot p)
    (hdrv : scheme = bFile → Model.PathPrepared.isWindowsDriveLetter input = false) :
    pathText (pathSegments scheme (splitPath (isSpecialScheme scheme) input) segs) = pathText segs ++ 0x2F :: input := by
  have hsplit : splitPath (isSpecialScheme scheme) input = splitPath false input := by
    cases hsp : isSpecialScheme scheme with
    | false => rfl
    | true => exact splitPath_nobs input (fun hm => hbs hsp _ hm rfl)
  have hpieces : ∀ p ∈ splitPath (isSpecialScheme scheme) input, SegOk (isSpecialScheme scheme) p := by
    intro p hp
    have hmem := splitPath_mem _ input p hp
    obtain ⟨hdd, hsd⟩ := dots_literal p (fun b hb => (hplain b (hmem b hb)).2)
    have hnot := hnd p (by rw [← hsplit]; exact hp)
    refine ⟨fun b hb => (hplain b (hmem b hb)).1, PC.splitPath_sepfree _ input p hp, ?_, ?_⟩
    · rw [hsd]; simpa using hnot.1
    · rw [hdd]; simpa using hnot.2
  rw [pathSegments_canon scheme _ segs hpieces (fun hf _ s hs hw => by
    cases hsp : splitPath (isSpecialScheme scheme) input with
    | nil => rw [hsp] at hs; cases hs
    | cons p0 tl =>
      rw [hsp] at hs
      simp only [List.head?_cons, Option.some.injEq] at hs
      subst hs
      have := first_drive _ input p0 tl hsp hw
      rw [hdrv hf] at this; cases this)]
  rw [pathText_append, hsplit, pathText_split]

end AdaVerif.Lemmas.PP
