import AdaVerif.Lemmas.FastIpv4
/-
C08: the fast scanner's "last significant character" heuristic is sound: when the last non-dot byte of a host is
neither a digit, nor a..f, nor x (any case), the host does not end in a number.
-/
namespace AdaVerif.Lemmas.FS
open AdaVerif AdaVerif.Spec AdaVerif.Lemmas AdaVerif.Model.FastScan

def lastNonDotOf (s : Bytes) : Option UInt8 := (s.filter (· != 0x2E)).getLast?

/-- bytes a number can end in: digit, a..f, x (any case) -/
def numTail (z : UInt8) : Bool :=
  isDigit z || (0x61 ≤ (lo z).toNat && (lo z).toNat ≤ 0x66) || lo z == 0x78

theorem hexDigit_tail : ∀ b : UInt8, isAsciiHexDigit b = true → numTail b = true := by
  apply forall_uint8_of_fin; decide +kernel

theorem radixDigit_hex (r : Nat) (b : UInt8) (h : isRadixDigit r b = true) : isAsciiHexDigit b = true := by
  unfold isRadixDigit at h
  unfold isAsciiHexDigit
  split at h
  · rw [h]; rfl
  · split at h
    · exact h
    · have : isAsciiDigit b = true := by
        simp only [isAsciiDigit, Bool.and_eq_true, decide_eq_true_eq] at h ⊢
        omega
      rw [this]; rfl

theorem radixDigit_tail (r : Nat) (b : UInt8) (h : isRadixDigit r b = true) : numTail b = true :=
  hexDigit_tail b (radixDigit_hex r b h)
theorem digit_tail (b : UInt8) (h : isAsciiDigit b = true) : numTail b = true := radixDigit_tail 10 b h

theorem last_of_all {p : UInt8 → Bool} (t : Bytes) (hne : t ≠ []) (h : t.all p = true) :
    ∃ z, t.getLast? = some z ∧ p z = true := by
  cases hz : t.getLast? with
  | none => exact absurd (List.getLast?_eq_none_iff.mp hz) hne
  | some z => exact ⟨z, rfl, all_getLast? t h z hz⟩

theorem ipv4Number_tail (l : Bytes) (v : Nat) (h : ipv4Number l = some v) : ∃ z, l.getLast? = some z ∧ numTail z = true := by
  match l, h with
  | [], h => simp [ipv4Number] at h
  | [c], h =>
    rw [Radix.ipv4Number_single] at h
    split at h
    · rename_i hc; exact ⟨c, rfl, digit_tail c hc⟩
    · cases h
  | c0 :: c1 :: t, h =>
    rw [List.getLast?_cons_cons]
    by_cases hc0 : c0 = 0x30
    · subst hc0
      by_cases hx : (c1 == 0x78 || c1 == 0x58) = true
      · rw [Radix.ipv4Number_hex c1 t hx] at h
        cases t with
        | nil =>
          simp only [Bool.or_eq_true, beq_iff_eq] at hx
          exact ⟨c1, rfl, by rcases hx with rfl | rfl <;> decide⟩
        | cons a t' =>
          rw [List.getLast?_cons_cons]
          simp only [List.isEmpty_cons, Bool.false_eq_true, ↓reduceIte] at h
          split at h
          · rename_i hall
            obtain ⟨z, hz, hp⟩ := last_of_all (a :: t') (by simp) hall
            exact ⟨z, hz, radixDigit_tail 16 z hp⟩
          · cases h
      · rw [Radix.ipv4Number_oct c1 t (by simpa using hx)] at h
        split at h
        · rename_i hall
          obtain ⟨z, hz, hp⟩ := last_of_all (c1 :: t) (by simp) hall
          exact ⟨z, hz, radixDigit_tail 8 z hp⟩
        · cases h
    · rw [Radix.ipv4Number_decimal c0 c1 t hc0] at h
      split at h
      · rename_i hall
        obtain ⟨z, hz, hp⟩ := last_of_all (c0 :: c1 :: t) (by simp) hall
        rw [List.getLast?_cons_cons] at hz
        exact ⟨z, hz, radixDigit_tail 10 z hp⟩
      · cases h

/-- the scanner's heuristic: a host that ends in a number has a number-like last byte that is not a dot -/
theorem endsInANumber_lastNonDot (s : Bytes) (h : endsInANumber s = true) : ∃ z, lastNonDotOf s = some z ∧ numTail z = true := by
  have hj := join_split 0x2E s
  have hns := split_nosep 0x2E s
  have hf := filter_join 0x2E (splitOn 0x2E s) hns
  rw [hj] at hf
  unfold lastNonDotOf
  rw [hf]
  unfold endsInANumber at h
  simp only at h
  generalize splitOn 0x2E s = parts at h hns hf ⊢
  -- the label that is examined, and the flattened text ending in it
  have key : ∀ (ps : List Bytes) (last : Bytes), ps.getLast? = some last →
      ((!last.isEmpty && last.all isAsciiDigit) = true ∨ (ipv4Number last).isSome = true) →
      ∃ z, ps.flatten.getLast? = some z ∧ numTail z = true := by
    intro ps last hl hc
    have hne : last ≠ [] := by
      intro e; subst e
      rcases hc with hc | hc
      · simp at hc
      · simp [ipv4Number] at hc
    rw [snoc_of_getLast? ps last hl, flatten_snoc_last _ _ hne]
    rcases hc with hc | hc
    · simp only [Bool.and_eq_true] at hc
      obtain ⟨z, hz, hp⟩ := last_of_all last hne hc.2
      exact ⟨z, hz, digit_tail z hp⟩
    · cases hv : ipv4Number last with
      | none => rw [hv] at hc; cases hc
      | some v => exact ipv4Number_tail last v hv
  by_cases hc : (parts.getLast? == some []) = true
  · simp only [hc, ↓reduceIte] at h
    by_cases hlen : (parts.length == 1) = true
    · simp [hlen] at h
    · simp only [hlen, Bool.false_eq_true, ↓reduceIte] at h
      -- parts = init ++ [[]]; the examined label is the last of init
      have hl : parts.getLast? = some [] := by simpa using hc
      have hps := snoc_of_getLast? parts [] hl
      have hfl : parts.flatten = parts.dropLast.flatten := by
        conv => lhs; rw [hps]
        simp
      rw [hfl]
      cases hq : parts.dropLast.getLast? with
      | none => rw [hq] at h; simp at h
      | some last =>
        rw [hq] at h
        simp only at h
        apply key parts.dropLast last hq
        split at h
        · left; assumption
        · right; exact h
  · simp only [hc, Bool.false_eq_true, ↓reduceIte] at h
    cases hq : parts.getLast? with
    | none => rw [hq] at h; simp at h
    | some last =>
      rw [hq] at h
      simp only at h
      apply key parts last hq
      split at h
      · left; assumption
      · right; exact h

end AdaVerif.Lemmas.FS
