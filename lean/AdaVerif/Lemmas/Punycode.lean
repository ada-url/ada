import AdaVerif.Model.Punycode
/-
The pieces of the Punycode model (`Model/Punycode.lean`): the 36 digits, the threshold, one digit of a generalized
variable-length integer and the round trip of a whole one, the decoder's inner loop without its int32 guards
(`decodeIntU`), and that the guards only reject.
-/
namespace AdaVerif.Lemmas.Puny
open AdaVerif AdaVerif.Model.Puny

theorem digit_rt (d : Nat) (h : d < 36) : charToDigit (digitToChar d) = some d := by
  have sweep : ∀ d : Fin 36, charToDigit (digitToChar d.val) = some d.val := by decide +kernel
  exact sweep ⟨d, h⟩

theorem digit_is_lower_alnum : ∀ d : Fin 36,
    (97 ≤ (digitToChar d.val).toNat ∧ (digitToChar d.val).toNat ≤ 122) ∨
    (48 ≤ (digitToChar d.val).toNat ∧ (digitToChar d.val).toNat ≤ 57) := by decide +kernel

theorem threshold_range (k bias : Nat) : 1 ≤ threshold k bias ∧ threshold k bias ≤ 26 := by
  unfold threshold tmin tmax
  split
  · omega
  · split <;> omega

/- With threshold `t` the number `q ≥ t` is written as the digit `t + (q - t) % (base - t)` followed by
`(q - t) / (base - t)`.  As `1 ≤ t ≤ 26`, the digit is below 36 and the rest has one decimal digit less. -/

theorem encodeInt_succ (bias f q k : Nat) : encodeInt bias (f + 1) q k =
    if q < threshold k bias then [digitToChar q]
    else digitToChar (threshold k bias + (q - threshold k bias) % (base - threshold k bias)) ::
      encodeInt bias f ((q - threshold k bias) / (base - threshold k bias)) (k + base) := rfl

theorem digit_lt (t q : Nat) (h1 : 1 ≤ t) (h2 : t ≤ 26) : t + (q - t) % (base - t) < 36 := by
  have := Nat.mod_lt (q - t) (by unfold base; omega : base - t > 0)
  unfold base at this ⊢
  omega

theorem rest_lt (t q f : Nat) (h2 : t ≤ 26) (hq : q < 10 ^ (f + 1)) : (q - t) / (base - t) < 10 ^ f := by
  apply Nat.div_lt_of_lt_mul
  have h10 : 10 * 10 ^ f ≤ (base - t) * 10 ^ f := Nat.mul_le_mul_right _ (by unfold base; omega)
  rw [Nat.pow_succ] at hq
  omega

theorem digit_value (t b q w : Nat) (h : t ≤ q) : (t + (q - t) % b) * w + (q - t) / b * (w * b) = q * w := by
  have e : (q - t) / b * (w * b) = b * ((q - t) / b) * w := by
    rw [Nat.mul_comm w, ← Nat.mul_assoc, Nat.mul_comm _ b]
  rw [e, ← Nat.add_mul, Nat.add_assoc, Nat.mod_add_div, Nat.add_sub_cancel' h]

/-- the decoder's inner loop without the int32 guards (pure arithmetic) -/
def decodeIntU (bias : Nat) : Nat → Bytes → Nat → Nat → Nat → Option (Nat × Bytes)
  | 0, _, _, _, _ => none
  | f + 1, input, i, w, k =>
    match input with
    | [] => none
    | c :: rest =>
      match charToDigit c with
      | none => none
      | some digit =>
        let i := i + digit * w
        let t := threshold k bias
        if digit < t then some (i, rest) else decodeIntU bias f rest i (w * (base - t)) (k + base)

theorem decodeIntU_cons (bias g : Nat) (c : UInt8) (rest : Bytes) (i w k d : Nat) (hc : charToDigit c = some d) :
    decodeIntU bias (g + 1) (c :: rest) i w k =
      if d < threshold k bias then some (i + d * w, rest)
      else decodeIntU bias g rest (i + d * w) (w * (base - threshold k bias)) (k + base) := by
  simp only [decodeIntU, hc]

theorem decodeInt_cons (bias g : Nat) (c : UInt8) (rest : Bytes) (i w k d : Nat) (hc : charToDigit c = some d) :
    decodeInt bias (g + 1) (c :: rest) i w k =
      if d > (intMax - i) / w then none
      else if d < threshold k bias then some (i + d * w, rest)
      else if w > intMax / (base - threshold k bias) then none
      else decodeInt bias g rest (i + d * w) (w * (base - threshold k bias)) (k + base) := by
  simp only [decodeInt, hc]

theorem encodeInt_length_le (bias : Nat) : ∀ f q k : Nat, (encodeInt bias f q k).length ≤ f
  | 0, _, _ => Nat.le_refl 0
  | f + 1, q, k => by
    rw [encodeInt_succ]
    split
    · simp
    · exact Nat.succ_le_succ (encodeInt_length_le bias f _ _)

theorem varint_roundtrip (bias : Nat) : ∀ (g f q k i w : Nat) (rest : Bytes), q < 10 ^ f →
    (encodeInt bias (f + 1) q k).length ≤ g →
    decodeIntU bias g (encodeInt bias (f + 1) q k ++ rest) i w k = some (i + q * w, rest) := by
  intro g
  induction g with
  | zero =>
    intro f q k i w rest _ hg
    rw [encodeInt_succ] at hg
    split at hg <;> simp at hg
  | succ g ih =>
    intro f q k i w rest hq hg
    obtain ⟨h1, h2⟩ := threshold_range k bias
    rw [encodeInt_succ] at hg ⊢
    by_cases hlt : q < threshold k bias
    · rw [if_pos hlt, List.singleton_append, decodeIntU_cons _ _ _ _ _ _ _ _ (digit_rt _ (by omega)), if_pos hlt]
    · cases f with
      | zero => rw [Nat.pow_zero] at hq; omega
      | succ f =>
        rw [if_neg hlt, List.length_cons] at hg
        rw [if_neg hlt, List.cons_append, decodeIntU_cons _ _ _ _ _ _ _ _ (digit_rt _ (digit_lt _ q h1 h2)), if_neg (by omega),
          ih f _ _ _ _ _ (rest_lt _ q f h2 hq) (by omega), Nat.add_assoc, digit_value _ _ q w (by omega)]

theorem guards_only_reject (bias : Nat) (f : Nat) (input : Bytes) (i w k : Nat) (r : Nat × Bytes) (hw : 0 < w)
    (hi : i ≤ intMax) (h : decodeInt bias f input i w k = some r) :
    decodeIntU bias f input i w k = some r ∧ r.1 ≤ intMax := by
  induction f generalizing input i w k with
  | zero => simp [decodeInt] at h
  | succ f ih =>
    cases input with
    | nil => simp [decodeInt] at h
    | cons c rest =>
      cases hc : charToDigit c with
      | none => simp [decodeInt, hc] at h
      | some d =>
        rw [decodeInt_cons bias f c rest i w k d hc] at h
        rw [decodeIntU_cons bias f c rest i w k d hc]
        split at h
        · cases h
        rename_i hg
        have hfit : i + d * w ≤ intMax := by
          have := Nat.mul_le_of_le_div _ _ _ (Nat.le_of_not_gt hg)
          omega
        split at h
        · rename_i hlt
          cases h
          exact ⟨if_pos hlt, hfit⟩
        · rename_i hlt
          rw [if_neg hlt]
          split at h
          · cases h
          · have ht2 := (threshold_range k bias).2
            exact ih rest _ _ _ (Nat.mul_pos hw (by unfold base; omega)) hfit h

/-- every weight the guarded decoder multiplies with fits a signed 32-bit integer -/
theorem weight_fits (w t : Nat) (h : ¬ (w > intMax / (base - t))) : w * (base - t) ≤ intMax :=
  Nat.mul_le_of_le_div _ _ _ (Nat.le_of_not_gt h)

/-- the encoder's `d += (m - n) * (h + 1)` cannot overflow under its guard -/
theorem encoder_delta_fits (m n d h : Nat) (hd : d ≤ intMax) (hg : ¬ ((m - n) > (intMax - d) / (h + 1))) :
    d + (m - n) * (h + 1) ≤ intMax := by
  have := Nat.mul_le_of_le_div _ _ _ (Nat.le_of_not_gt hg)
  omega

end AdaVerif.Lemmas.Puny
