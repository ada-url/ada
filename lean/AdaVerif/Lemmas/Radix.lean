import AdaVerif.Spec.Host
/-
Positional notation: `Spec.parseRadix` on a text taken apart at either end, and the decimal texts that
`Spec.natToDec` writes (digits only, no leading zero) as exactly the texts that read back to their value; and the
Standard's IPv4 number parser on each shape of label (hexadecimal, octal, decimal, one byte).
-/
namespace AdaVerif.Lemmas.Radix
open AdaVerif AdaVerif.Spec

theorem foldl_pow (r : Nat) (l : Bytes) (a : Nat) :
    l.foldl (fun acc b => acc * r + digitVal b) a = a * r ^ l.length + parseRadix r l := by
  unfold parseRadix
  induction l generalizing a with
  | nil => simp
  | cons x l ih =>
    simp only [List.foldl_cons, List.length_cons]
    rw [ih (a * r + digitVal x), ih (0 * r + digitVal x), Nat.add_mul, Nat.pow_succ, Nat.mul_assoc, Nat.mul_comm r, Nat.zero_mul,
      Nat.zero_add, Nat.add_assoc]

theorem parseRadix_cons (r : Nat) (c : UInt8) (l : Bytes) : parseRadix r (c :: l) = digitVal c * r ^ l.length + parseRadix r l := by
  rw [parseRadix, List.foldl_cons, foldl_pow, Nat.zero_mul, Nat.zero_add]

theorem parseRadix_snoc (r : Nat) (a : Bytes) (d : UInt8) : parseRadix r (a ++ [d]) = parseRadix r a * r + digitVal d := by
  simp [parseRadix, List.foldl_append]

theorem digit_back : ∀ d : UInt8, isAsciiDigit d = true →
    UInt8.ofNat (48 + digitVal d) = d ∧ digitVal d < 10 ∧ d.toNat = 48 + digitVal d ∧ (d ≠ 0x30 → 1 ≤ digitVal d) := by
  apply forall_uint8_of_fin; decide +kernel

theorem pow_le_parseRadix (c : UInt8) (l : Bytes) (hc : isAsciiDigit c = true) (h0 : c ≠ 0x30) :
    10 ^ l.length ≤ parseRadix 10 (c :: l) := by
  rw [parseRadix_cons]
  have := Nat.mul_le_mul_right (10 ^ l.length) ((digit_back c hc).2.2.2 h0)
  omega

theorem parseRadix_lt (sig : Bytes) (hd : ∀ b ∈ sig, isAsciiDigit b = true) : parseRadix 10 sig < 10 ^ sig.length := by
  induction sig with
  | nil => decide
  | cons c r ih =>
    rw [parseRadix_cons]
    have h1 := (digit_back c (hd c (by simp))).2.1
    have h2 := ih (fun b hb => hd b (by simp [hb]))
    have : digitVal c * 10 ^ r.length ≤ 9 * 10 ^ r.length := Nat.mul_le_mul_right _ (by omega)
    simp only [List.length_cons, Nat.pow_succ]
    omega

/-- the shortest decimal spelling of the value of a digit string without leading zero is that string -/
theorem natToDecF_parseRadix : ∀ (f : Nat) (sig : Bytes), sig ≠ [] → (∀ b ∈ sig, isAsciiDigit b = true) → sig.head? ≠ some 0x30 →
    sig.length ≤ f → natToDecF f (parseRadix 10 sig) = sig := by
  intro f
  induction f with
  | zero =>
    intro sig hne _ _ hl
    exact absurd (List.eq_nil_of_length_eq_zero (by omega)) hne
  | succ f ih =>
    intro sig hne hd hh hl
    obtain ⟨a, d, rfl⟩ : ∃ a d, sig = a ++ [d] := ⟨_, _, (List.dropLast_concat_getLast hne).symm⟩
    obtain ⟨hback, hlt, _⟩ := digit_back d (hd d (by simp))
    rw [parseRadix_snoc, natToDecF]
    cases a with
    | nil => simp [parseRadix, hlt, hback]
    | cons c r =>
      have hc0 : c ≠ 0x30 := by simpa using hh
      have hpos := pow_le_parseRadix c r (hd c (by simp)) hc0
      have : 1 ≤ 10 ^ r.length := Nat.pow_pos (by decide)
      have hge : ¬ (parseRadix 10 (c :: r) * 10 + digitVal d < 10) := by omega
      have h1 : (parseRadix 10 (c :: r) * 10 + digitVal d) / 10 = parseRadix 10 (c :: r) := by omega
      have h2 : (parseRadix 10 (c :: r) * 10 + digitVal d) % 10 = digitVal d := by omega
      simp only [hge, ↓reduceIte, h1, h2, hback]
      rw [ih (c :: r) (by simp) (fun b hb => hd b (List.mem_append_left _ hb)) (by simpa using hc0) (by simp at hl ⊢; omega)]

theorem ipv4Number_hex (x : UInt8) (t : Bytes) (hx : (x == 0x78 || x == 0x58) = true) :
    ipv4Number (0x30 :: x :: t) =
      (if t.isEmpty then some 0 else if t.all (isRadixDigit 16) then some (parseRadix 16 t) else none) := by
  simp [ipv4Number, hx]

theorem ipv4Number_oct (x : UInt8) (t : Bytes) (hx : (x == 0x78 || x == 0x58) = false) :
    ipv4Number (0x30 :: x :: t) = (if (x :: t).all (isRadixDigit 8) then some (parseRadix 8 (x :: t)) else none) := by
  simp [ipv4Number, hx]

theorem ipv4Number_decimal (c0 c1 : UInt8) (t : Bytes) (h0 : c0 ≠ 0x30) :
    ipv4Number (c0 :: c1 :: t) =
      (if (c0 :: c1 :: t).all (isRadixDigit 10) then some (parseRadix 10 (c0 :: c1 :: t)) else none) := by
  unfold ipv4Number
  simp only [List.isEmpty_cons, Bool.false_eq_true, ↓reduceIte]
  split
  · rename_i heq; injection heq with e _; exact absurd e h0
  · simp

theorem ipv4Number_single (c : UInt8) : ipv4Number [c] = if isAsciiDigit c then some (digitVal c) else none := by
  simp [ipv4Number, parseRadix, isRadixDigit]

end AdaVerif.Lemmas.Radix
