import AdaVerif.Lemmas.ParseSpecial
import AdaVerif.Spec.RecInv
/-
The states of `parse_url_impl<ada::url>` a base takes part in, the front end both machines of Model/ParseSpecial.lean share, and
the two machines against `Spec.parse`: `machine` (no base) and `machineB` (a base object holding a record with the record
invariants).  Behind them what the model builds on the parser: the length limit, `url::set_href`, `url::get_origin`.
-/
namespace AdaVerif.Lemmas.PB
open AdaVerif AdaVerif.Spec AdaVerif.Lemmas AdaVerif.Lemmas.PS AdaVerif.Model AdaVerif.Model.ParseSpecial AdaVerif.Model.UrlRec
  AdaVerif.Model.HostParse

theorem noSlash_shorten (scheme : Bytes) (segs : List Bytes) (hn : PP.NoSlash segs) : PP.NoSlash (Spec.shortenPath scheme segs) :=
  PP.noSlash_shorten scheme segs hn

/-- the record invariants of C19 and path segments without '/': whatever `Spec.parse` returns has both -/
structure BaseOk (b : Url) : Prop where
  inv : RecInv b = true
  noSlash : PP.NoSlash b.path

theorem special_not_opaque (b : Url) (h : RecInv b = true) (hs : isSpecialScheme b.scheme = true) : b.isOpaque = false :=
  (((recInv_iff b).1 h).special hs).1

theorem base_path (b : Url) (ho : b.isOpaque = false) : (UR.recOf b).path = FP.pathText b.path :=
  FP.pathSerialized_nonopaque b ho

theorem inherit_eq (b : Url) (ho : b.isOpaque = false) (frag : Option Bytes) (segs : List Bytes) (query : Option Bytes) :
    inherit (UR.recOf b) frag (FP.pathText segs) query =
      .ok (UR.recOf { scheme := b.scheme, username := b.username, password := b.password, host := b.host, port := b.port,
                      path := segs, query := query, fragment := frag.map (percentEncode inFragment) }) := by
  simp [inherit, UR.recOf, Url.isSpecial, Url.pathSerialized, ho, FP.pathText, encFrag]

/-- the inner `match` of `Spec.relativeState` under a name; `relativeState_cons` ties it to that body -/
def relSlashSpec (idna : Idna) (b : Url) (rest : Bytes) : Option Url :=
  match rest with
  | d :: rest' =>
    if isSpecialScheme b.scheme && (d == 0x2F || d == 0x5C) then fromAuthority idna b.scheme (skipSlashes rest')
    else if d == 0x2F then fromAuthority idna b.scheme rest'
    else some { scheme := b.scheme, username := b.username, password := b.password, host := b.host, port := b.port,
                path := pathState b.scheme [] rest }
  | [] => some { scheme := b.scheme, username := b.username, password := b.password, host := b.host, port := b.port,
                 path := pathState b.scheme [] rest }

theorem tyOf (scheme : Bytes) : PP.TyOf scheme (getSchemeType scheme) :=
  ⟨(Proto.type_facts scheme).2.1, (Proto.type_facts scheme).1⟩

theorem pathOnly_eq (b : Url) (rest : Bytes) (q frag : Option Bytes) (hnoq : (0x3F : UInt8) ∉ rest) :
    (Out.ok { scheme := b.scheme, special := isSpecialScheme b.scheme, username := b.username, password := b.password,
              host := b.host.map Host.serialize, port := b.port,
              path := (pathQ (isSpecialScheme b.scheme) (getSchemeType b.scheme) (rest ++ qs q)).1,
              query := (pathQ (isSpecialScheme b.scheme) (getSchemeType b.scheme) (rest ++ qs q)).2, hash := encFrag frag, opq := false } : Out) =
      outOf ((some ({ scheme := b.scheme, username := b.username, password := b.password, host := b.host, port := b.port,
                      path := pathState b.scheme [] rest } : Url)).map (addQF q frag)) := by
  rw [pathQ_spec (isSpecialScheme b.scheme) b.scheme _ (tyOf b.scheme) rest q hnoq]
  cases q <;> cases frag <;>
    simp [outOf, addQF, UR.recOf, Url.isSpecial, Url.pathSerialized, FP.pathText, encFrag]

theorem dropSlashes_qs (r : Bytes) (q : Option Bytes) :
    (r ++ qs q).dropWhile (fun c => c == 0x2F || c == 0x5C) = skipSlashes r ++ qs q := skipSlashes_qs r q

theorem relativeSlash_spec (idna : Idna) (b : Url) (rest : Bytes) (q frag : Option Bytes) (hid : ∀ d, HP.IdnaAt idna d)
    (hnoq : (0x3F : UInt8) ∉ rest)
    (hclean : ∀ sp text v cr, relAuthSlash (isSpecialScheme b.scheme) (rest ++ qs q) = some (sp, text) →
      authority sp text = some (v, cr) → BR.bracketOk sp v = true) :
    relativeSlash idna (UR.recOf b) frag (rest ++ qs q) = outOf ((relSlashSpec idna b rest).map (addQF q frag)) := by
  unfold relativeSlash relSlashSpec
  simp only [UR.recOf, Url.isSpecial]
  cases rest with
  | nil =>
    have := pathOnly_eq b [] q frag (by simp)
    cases q <;> simpa [qs] using this
  | cons d rest' =>
    have hno' : (0x3F : UInt8) ∉ rest' := fun h => hnoq (List.mem_cons_of_mem _ h)
    simp only [List.cons_append]
    by_cases h1 : (isSpecialScheme b.scheme && (d == 0x2F || d == 0x5C)) = true
    · simp only [h1, ↓reduceIte]
      have hs : isSpecialScheme b.scheme = true := by
        cases h : isSpecialScheme b.scheme with
        | true => rfl
        | false => simp [h] at h1
      rw [dropSlashes_qs]
      have hsub : ∀ x ∈ skipSlashes rest', x ∈ rest' := fun x hx => (List.dropWhile_sublist _).subset hx
      have hcl : ∀ v cr, authority true (skipSlashes rest' ++ qs q) = some (v, cr) → BR.bracketOk true v = true := by
        intro v cr hv
        apply hclean true (skipSlashes rest' ++ qs q) v cr _ hv
        simp only [relAuthSlash, List.cons_append, h1, ↓reduceIte, dropSlashes_qs]
      exact afterSlashes_spec idna true b.scheme hs (skipSlashes rest') q frag hid (fun h => hno' (hsub _ h)) hcl
    · simp only [h1, Bool.false_eq_true, ↓reduceIte]
      by_cases h2 : (d == 0x2F) = true
      · simp only [h2, ↓reduceIte]
        have hs : isSpecialScheme b.scheme = false := by
          cases h : isSpecialScheme b.scheme with
          | false => rfl
          | true => simp [h, h2] at h1
        have hcl : ∀ v cr, authority false (rest' ++ qs q) = some (v, cr) → BR.bracketOk false v = true := by
          intro v cr hv
          apply hclean false (rest' ++ qs q) v cr _ hv
          simp [relAuthSlash, hs, h2]
        exact afterSlashes_spec idna false b.scheme hs rest' q frag hid hno' hcl
      · simp only [h2, Bool.false_eq_true, ↓reduceIte]
        have := pathOnly_eq b (d :: rest') q frag hnoq
        simpa using this

theorem relativeState_cons (idna : Idna) (b : Url) (c : UInt8) (rest : Bytes) :
    relativeState idna b (c :: rest) =
      if c == 0x2F || (isSpecialScheme b.scheme && c == 0x5C) then relSlashSpec idna b rest
      else some { scheme := b.scheme, username := b.username, password := b.password, host := b.host, port := b.port,
                  path := pathState b.scheme (Spec.shortenPath b.scheme b.path) (c :: rest) } := by
  unfold relativeState relSlashSpec
  simp only
  split
  · cases rest <;> rfl
  · rfl

theorem inherit_addQF (b : Url) (ho : b.isOpaque = false) (q frag : Option Bytes) (segs : List Bytes) (bq : Option Bytes) :
    inherit (UR.recOf b) frag (FP.pathText segs) (match q with | some x => some (encodeQuery (isSpecialScheme b.scheme) x) | none => bq) =
      outOf ((some ({ scheme := b.scheme, username := b.username, password := b.password, host := b.host, port := b.port,
                      path := segs, query := bq } : Url)).map (addQF q frag)) := by
  rw [inherit_eq b ho]
  cases q <;> cases frag <;> simp [outOf, addQF, Url.isSpecial]

/-- RELATIVE_SCHEME (and RELATIVE_SLASH and what follows) = the Standard's relative state -/
theorem relativeScheme_spec (idna : Idna) (b : Url) (hb : BaseOk b) (ho : b.isOpaque = false) (pre : Bytes) (q frag : Option Bytes)
    (hid : ∀ d, HP.IdnaAt idna d) (hnoq : (0x3F : UInt8) ∉ pre)
    (hclean : ∀ sp text v cr, relAuth (UR.recOf b) (pre ++ qs q) = some (sp, text) →
      authority sp text = some (v, cr) → BR.bracketOk sp v = true) :
    relativeScheme idna (UR.recOf b) frag (pre ++ qs q) = outOf ((relativeState idna b pre).map (addQF q frag)) := by
  have hpath := base_path b ho
  cases pre with
  | nil =>
    unfold relativeScheme relativeState
    simp only [List.nil_append, UR.recOf_special, hpath, UR.recOf_query]
    have := inherit_addQF b ho q frag b.path b.query
    cases q with
    | none => simpa [qs] using this
    | some q' => simp [qs]; exact this
  | cons c r =>
    have hcq := Cut.head_ne hnoq
    rw [relativeState_cons]
    unfold relativeScheme
    simp only [List.cons_append, UR.recOf_special, UR.recOf_scheme, hpath]
    by_cases hc : (c == 0x2F || (isSpecialScheme b.scheme && c == 0x5C)) = true
    · simp only [hc, ↓reduceIte]
      apply relativeSlash_spec idna b r q frag hid (fun h => hnoq (List.mem_cons_of_mem _ h))
      intro sp text v cr h1 h2
      apply hclean sp text v cr _ h2
      simp only [relAuth, List.cons_append, UR.recOf_special, hc, ↓reduceIte, h1]
    · simp only [hc, Bool.false_eq_true, ↓reduceIte, hcq]
      rw [PP.shortenPath_eq b.scheme _ (Proto.type_facts b.scheme).2.1 b.path hb.noSlash]
      have := pathQFrom_spec (isSpecialScheme b.scheme) b.scheme _ (tyOf b.scheme) (Spec.shortenPath b.scheme b.path)
        (PP.noSlash_shorten b.scheme b.path hb.noSlash) (c :: r) q hnoq
      simp only [List.cons_append] at this
      rw [this]
      simp only
      have h2 := inherit_addQF b ho q frag (pathState b.scheme (Spec.shortenPath b.scheme b.path) (c :: r)) none
      cases q with
      | none => simpa using h2
      | some q' => simpa using h2

theorem isWindowsDriveLetter_eq_startsWith (X : Bytes) : PathPrepared.isWindowsDriveLetter X = startsWithWindowsDriveLetter X := by
  unfold PathPrepared.isWindowsDriveLetter startsWithWindowsDriveLetter
  match X with
  | [] => rfl
  | [_] => rfl
  | a :: b :: rest => cases rest <;> simp [PP.isAlpha_model_eq]

def QF (Y : Bytes) : Prop := Y = [] ∨ ∃ c t, Y = c :: t ∧ (c = 0x3F ∨ c = 0x23)

theorem sw_append (X Y : Bytes) (hY : QF Y) : startsWithWindowsDriveLetter (X ++ Y) = startsWithWindowsDriveLetter X := by
  rcases hY with rfl | ⟨c, t, rfl, hc⟩
  · simp
  · match X with
    | [] =>
      have : isAsciiAlpha c = false := by rcases hc with rfl | rfl <;> decide
      cases t <;> simp [startsWithWindowsDriveLetter, this]
    | [a] =>
      have : (c == 0x3A || c == 0x7C) = false := by rcases hc with rfl | rfl <;> decide
      simp [startsWithWindowsDriveLetter, this]
    | [a, b] =>
      have : (c == 0x2F || c == 0x5C || c == 0x3F || c == 0x23) = true := by rcases hc with rfl | rfl <;> decide
      simp only [startsWithWindowsDriveLetter, List.cons_append, List.nil_append, this, Bool.and_true]
    | a :: b :: d :: rest => rfl

theorem qs_QF (q : Option Bytes) : QF (qs q) := by
  cases q with
  | none => exact Or.inl rfl
  | some q => exact Or.inr ⟨0x3F, q, rfl, Or.inl rfl⟩

theorem first_segment (p : Bytes) (more : List Bytes) (hp : (0x2F : UInt8) ∉ p) :
    ((FP.pathText (p :: more)).drop 1).takeWhile (· != 0x2F) = p := by
  have h1 : (FP.pathText (p :: more)).drop 1 = p ++ FP.pathText more := by simp [FP.pathText]
  rw [h1]
  have hstop : FP.pathText more = [] ∨ ∃ c t, FP.pathText more = c :: t ∧ (c != 0x2F) = false := by
    cases more with
    | nil => exact Or.inl rfl
    | cons m ms => exact Or.inr ⟨0x2F, m ++ FP.pathText ms, by simp [FP.pathText], by decide⟩
  rw [takeWhile_prefix_stop _ p _ hstop]
  apply takeWhile_eq_self
  intro b hb
  have : b ≠ 0x2F := fun e => hp (e ▸ hb)
  simpa using this

theorem fileInherit_eq (b : Url) (q frag : Option Bytes) (segs : List Bytes) :
    fileInherit (UR.recOf b) frag (FP.pathText segs) (q.map (encodeQuery true)) false =
      outOf ((some ({ scheme := bFile, host := b.host, path := segs } : Url)).map (addQF q frag)) := by
  cases q <;> cases frag <;>
    simp [fileInherit, outOf, addQF, UR.recOf, Url.isSpecial, special_file, Url.pathSerialized, FP.pathText, encFrag]

structure FileBase (fb : Option Rec) (base : Option Url) : Prop where
  eq : fb = (baseIsFile base).map UR.recOf
  ok : ∀ b, baseIsFile base = some b → BaseOk b ∧ b.isOpaque = false

theorem fileSlashB_spec (idna : Idna) (fb : Option Rec) (base : Option Url) (hfb : FileBase fb base) (text : Bytes) (q frag : Option Bytes)
    (hid : ∀ d, HP.IdnaAt idna d) (hnoq : (0x3F : UInt8) ∉ text) (hnoh : (0x23 : UInt8) ∉ text) :
    fileSlashB idna fb frag (text ++ qs q) = outOf ((fileSlash idna base text).map (addQF q frag)) := by
  have hother : fileSlashOther fb frag (text ++ qs q) = outOf ((fileSlash.fileSlashElse base text).map (addQF q frag)) := by
    unfold fileSlashOther
    unfold fileSlash.fileSlashElse
    rw [hfb.eq]
    cases hbf : baseIsFile base with
    | none =>
      simp only [Option.map_none, Option.map_some, outOf]
      exact filePath_spec text q frag hnoq
    | some b =>
      obtain ⟨hb, ho⟩ := hfb.ok b hbf
      simp only [Option.map_some]
      rw [base_path b ho, isWindowsDriveLetter_eq_startsWith, sw_append text (qs q) (qs_QF q)]
      have hp0 : (if !(FP.pathText b.path).isEmpty && !startsWithWindowsDriveLetter text &&
            PathPrepared.isNormalizedWindowsDriveLetter (((FP.pathText b.path).drop 1).takeWhile (· != 0x2F))
          then 0x2F :: ((FP.pathText b.path).drop 1).takeWhile (· != 0x2F) else []) =
          FP.pathText (if !startsWithWindowsDriveLetter text then
            (match b.path with | p :: _ => if isNormalizedWindowsDriveLetter p then [p] else [] | [] => []) else []) := by
        cases hbp : b.path with
        | nil => cases startsWithWindowsDriveLetter text <;> simp [FP.pathText]
        | cons p more =>
          have hpn : (0x2F : UInt8) ∉ p := hb.noSlash p (by rw [hbp]; simp)
          rw [first_segment p more hpn, PP.normalized_eq]
          cases hsw : startsWithWindowsDriveLetter text <;> cases hnz : isNormalizedWindowsDriveLetter p <;>
            simp [FP.pathText, hnz]
      simp only [hp0]
      have hns : PP.NoSlash (if !startsWithWindowsDriveLetter text then
            (match b.path with | p :: _ => if isNormalizedWindowsDriveLetter p then [p] else [] | [] => []) else []) := by
        intro s hs
        split at hs
        · split at hs
          · rename_i p more hbp
            split at hs
            · simp only [List.mem_singleton] at hs
              subst hs
              exact hb.noSlash s (by rw [hbp]; simp)
            · cases hs
          · cases hs
        · cases hs
      rw [pathQFrom_spec true bFile 6 ⟨by decide, by decide⟩ _ hns text q hnoq]
      exact fileInherit_eq b q frag _
  unfold fileSlashB fileSlash
  cases text with
  | nil =>
    cases q <;> simpa [qs] using hother
  | cons c r =>
    simp only [List.cons_append] at hother ⊢
    by_cases hc : (c == 0x2F || c == 0x5C) = true
    · simp only [hc, ↓reduceIte]
      exact fileHost_spec idna r q frag hid (fun h => hnoq (List.mem_cons_of_mem _ h)) (fun h => hnoh (List.mem_cons_of_mem _ h))
    · simp only [hc, Bool.false_eq_true, ↓reduceIte]
      exact hother

def qOr (q bq : Option Bytes) : Option Bytes :=
  match q with
  | some x => some (encodeQuery true x)
  | none => bq

theorem fileInherit_q (b : Url) (q frag : Option Bytes) (segs : List Bytes) (bq bq' : Option Bytes) (hq : q = none → bq' = bq) :
    fileInherit (UR.recOf b) frag (FP.pathText segs) (qOr q bq) false =
      outOf ((some ({ scheme := bFile, host := b.host, path := segs, query := bq' } : Url)).map (addQF q frag)) := by
  cases q with
  | none =>
    rw [hq rfl]
    cases frag <;>
      simp [qOr, fileInherit, outOf, addQF, UR.recOf, Url.isSpecial, special_file, Url.pathSerialized, FP.pathText, encFrag]
  | some x =>
    cases frag <;>
      simp [qOr, fileInherit, outOf, addQF, UR.recOf, Url.isSpecial, special_file, Url.pathSerialized, FP.pathText, encFrag]

/-- FILE (and FILE_SLASH, FILE_HOST behind it) with a base = the Standard's file state -/
theorem fileB_spec (idna : Idna) (fb : Option Rec) (base : Option Url) (hfb : FileBase fb base) (pre tail Y : Bytes) (q frag : Option Bytes)
    (hid : ∀ d, HP.IdnaAt idna d) (hnoq : (0x3F : UInt8) ∉ pre) (hnoh : (0x23 : UInt8) ∉ pre) (hY : QF Y)
    (htail : tail = (pre ++ qs q) ++ Y) (hF : Bool) :
    fileB idna fb frag (pre ++ qs q) = outOf ((fileState idna base pre tail q.isSome hF).map (addQF q frag)) := by
  have hother : fileOther fb frag (pre ++ qs q) = outOf ((fileState.fileElse base pre tail q.isSome hF).map (addQF q frag)) := by
    unfold fileOther fileState.fileElse
    rw [hfb.eq]
    cases hbf : baseIsFile base with
    | none =>
      simp only [Option.map_none, Option.map_some, outOf]
      exact filePath_spec pre q frag hnoq
    | some b =>
      obtain ⟨hb, ho⟩ := hfb.ok b hbf
      simp only [Option.map_some, UR.recOf_opq, ho, UR.recOf_query]
      rw [base_path b ho]
      cases pre with
      | nil =>
        simp only [List.nil_append, List.isEmpty_nil, ↓reduceIte]
        -- `fileState.fileElse` unfolds to `if hasQ then none else if hasF then b.query else b.query`: its own shape is kept so that
        -- `simpa` meets it as it stands
        cases q with
        | none =>
          have := fileInherit_q b none frag b.path b.query (if false then none else if hF then b.query else b.query) (by intro _; cases hF <;> rfl)
          simpa [qs, qOr] using this
        | some q' =>
          have := fileInherit_q b (some q') frag b.path b.query (if true then none else if hF then b.query else b.query) (by intro h; cases h)
          simpa [qs, qOr, encodeQuery] using this
      | cons c r =>
        have hcq := Cut.head_ne hnoq
        simp only [List.cons_append, hcq, Bool.false_eq_true, ↓reduceIte, List.isEmpty_cons]
        have hsw : PathPrepared.isWindowsDriveLetter (c :: (r ++ qs q)) = startsWithWindowsDriveLetter tail := by
          rw [isWindowsDriveLetter_eq_startsWith, htail, sw_append _ Y hY]; rfl
        simp only [hsw]
        have hp0 : (if !startsWithWindowsDriveLetter tail then PathPrepared.shortenPath (FP.pathText b.path) 6 else []) =
            FP.pathText (if !startsWithWindowsDriveLetter tail then Spec.shortenPath bFile b.path else []) := by
          rw [PP.shortenPath_eq bFile 6 (by decide) b.path hb.noSlash]
          cases startsWithWindowsDriveLetter tail <;> simp [FP.pathText]
        rw [hp0]
        have hns : PP.NoSlash (if !startsWithWindowsDriveLetter tail then Spec.shortenPath bFile b.path else []) := by
          split
          · exact PP.noSlash_shorten bFile b.path hb.noSlash
          · intro s hs; cases hs
        have := pathQFrom_spec true bFile 6 ⟨by decide, by decide⟩ _ hns (c :: r) q hnoq
        simp only [List.cons_append] at this
        rw [this]
        exact fileInherit_eq b q frag _
  unfold fileB fileState
  cases pre with
  | nil =>
    cases q <;> simpa [qs] using hother
  | cons c r =>
    simp only [List.cons_append] at hother ⊢
    by_cases hc : (c == 0x2F || c == 0x5C) = true
    · simp only [hc, ↓reduceIte]
      exact fileSlashB_spec idna fb base hfb r q frag hid (fun h => hnoq (List.mem_cons_of_mem _ h)) (fun h => hnoh (List.mem_cons_of_mem _ h))
    · simp only [hc, Bool.false_eq_true, ↓reduceIte]
      exact hother


theorem sfx_QF (frag : Option Bytes) : QF (Cut.sfx 0x23 frag) := by
  cases frag with
  | none => exact Or.inl rfl
  | some f => exact Or.inr ⟨0x23, f, rfl, Or.inr rfl⟩

/-- what preprocessing, `prune_hash` and the cut at '?' leave: `pre [? query] [# frag]`, the Standard's cut of the same input -/
structure Front (input pre : Bytes) (query frag : Option Bytes) : Prop where
  prep : prep input = (pre ++ qs query, frag)
  text : preprocess input = pre ++ qs query ++ Cut.sfx 0x23 frag
  noQ : (0x3F : UInt8) ∉ pre
  noH : (0x23 : UInt8) ∉ pre
  parse : ∀ idna base, parse idna input base =
    (parseCore idna base pre (preprocess input) query.isSome frag.isSome).map (addQF query frag)

theorem front (input : Bytes) : ∃ pre query frag, Front input pre query frag := by
  obtain ⟨hs, hnh⟩ := Cut.cutAt_split 0x23 (preprocess input)
  rcases hcf : cutAt 0x23 (preprocess input) with ⟨d, frag⟩
  obtain ⟨hd, hnq⟩ := Cut.cutAt_split 0x3F d
  rcases hcq : cutAt 0x3F d with ⟨pre, query⟩
  rw [hcf] at hs hnh
  rw [hcq, ← qs_eq] at hd
  rw [hcq] at hnq
  simp only at hs hnh hd hnq
  refine ⟨pre, query, frag, ?_, ?_, hnq, fun h => hnh (by rw [hd]; exact List.mem_append_left _ h), fun idna base =>
    parse_addQF idna input base d pre frag query hcf hcq⟩
  · rw [prep_eq, hcf, hd]
  · rw [← hd]; exact hs

theorem schemeScan_none (pre : Bytes) (query : Option Bytes) (htp : takeScheme pre = none) :
    schemeScan (pre ++ qs query) = none := by
  have h := schemeScan_spec (pre ++ qs query)
  rw [takeScheme_qs, htp] at h
  cases hss : schemeScan (pre ++ qs query) with
  | none => rfl
  | some x => rw [hss] at h; cases h

theorem Front.withScheme {input pre : Bytes} {query frag : Option Bytes} (F : Front input pre query frag) {scheme restp : Bytes}
    (htp : takeScheme pre = some (scheme, restp)) :
    ∃ name, schemeScan (pre ++ qs query) = some (name, restp ++ qs query) ∧
      parseSchemeNoOverride name = (getSchemeType scheme, scheme) ∧ (0x3F : UInt8) ∉ restp ∧ (0x23 : UInt8) ∉ restp ∧
      (preprocess input).drop (pre.length - restp.length) = restp ++ qs query ++ Cut.sfx 0x23 frag ∧
      (restp.getLast? = some 0x20 → (query.isSome || frag.isSome) = true) := by
  have h := schemeScan_spec (pre ++ qs query)
  rw [takeScheme_qs, htp] at h
  cases hss : schemeScan (pre ++ qs query) with
  | none => rw [hss] at h; cases h
  | some nr =>
    obtain ⟨name, rest⟩ := nr
    rw [hss] at h
    simp only [Option.map_some, Option.some.injEq, Prod.mk.injEq] at h
    obtain ⟨hname, hrest⟩ := h
    have hsub := takeScheme_rest_sub pre scheme restp htp
    obtain ⟨pfx, hpfx⟩ := takeScheme_suffix pre scheme restp htp
    refine ⟨name, by rw [← hrest], by rw [parseSchemeNoOverride_spec, ← hname], fun h => F.noQ (hsub _ h), fun h => F.noH (hsub _ h), ?_,
      last_space_followed input pre scheme restp query frag F.text htp⟩
    rw [F.text, hpfx, show (pfx ++ restp).length - restp.length = pfx.length by simp, List.append_assoc, List.append_assoc,
      List.drop_left, List.append_assoc]

theorem parseCore_none (idna : Idna) (base : Option Url) (pre tail : Bytes) (hQ hF : Bool) (htp : takeScheme pre = none) :
    parseCore idna base pre tail hQ hF =
      match base with
      | none => none
      | some b =>
        if b.isOpaque then (if pre.isEmpty && !hQ && hF then some { scheme := b.scheme, isOpaque := true, opath := b.opath, query := b.query } else none)
        else if b.scheme != bFile then relativeState idna b pre
        else fileState idna base pre tail hQ hF := by
  unfold parseCore
  simp only [htp]
  cases base <;> rfl

/-- the inner `match` of `Spec.parseCore` (special relative or authority) under a name; tied to it by the `rfl` in `parseCore_some` -/
def sraSpec (idna : Idna) (b : Url) (scheme rest : Bytes) : Option Url :=
  match rest with
  | 0x2F :: 0x2F :: rest' => fromAuthority idna scheme (skipSlashes rest')
  | _ => if b.isOpaque then none else relativeState idna b rest

theorem parseCore_some (idna : Idna) (base : Option Url) (pre tail : Bytes) (hQ hF : Bool) (scheme rest : Bytes)
    (htp : takeScheme pre = some (scheme, rest)) :
    parseCore idna base pre tail hQ hF =
      if scheme == bFile then fileState idna base rest (tail.drop (pre.length - rest.length)) hQ hF
      else match base.filter (fun b => isSpecialScheme scheme && b.scheme == scheme) with
        | some b => sraSpec idna b scheme rest
        | none => if isSpecialScheme scheme then fromAuthority idna scheme (skipSlashes rest)
                  else nsSpec idna scheme rest (hQ || hF) := by
  unfold parseCore
  simp only [htp]
  cases base with
  | none => rfl
  | some b =>
    -- the filter keeps the base exactly in the one of the four cases in which the Standard enters "special relative or authority"
    cases hs : isSpecialScheme scheme <;> cases hb : (b.scheme == scheme) <;> simp [Option.filter, hb] <;> rfl

theorem afterSchemeFile_eq (idna : Idna) (frag : Option Bytes) (rest : Bytes) :
    afterSchemeFile idna frag rest = fileB idna none frag rest := by
  cases rest with
  | nil => rfl
  | cons c r1 => cases r1 <;> rfl

theorem fileBase_none : FileBase none none := ⟨rfl, fun b h => by cases h⟩

end AdaVerif.Lemmas.PB

namespace AdaVerif.Lemmas.PS
open AdaVerif AdaVerif.Spec AdaVerif.Lemmas AdaVerif.Lemmas.PB AdaVerif.Model AdaVerif.Model.ParseSpecial AdaVerif.Model.UrlRec
  AdaVerif.Model.HostParse

/-- `parse_url_impl<ada::url>(input, nullptr)` from SCHEME_START on = the Standard's basic URL parser, for every
    input -/
theorem machine_spec (idna : Idna) (input : Bytes) (hid : ∀ d, HP.IdnaAt idna d)
    (hclean : BR.bracketOk (schemeSpecial input) (hostStart input) = true) :
    machine idna input = outOf (parse idna input none) := by
  obtain ⟨pre, query, frag, F⟩ := front input
  unfold machine
  unfold hostStart schemeSpecial at hclean
  rw [F.prep] at hclean ⊢
  rw [F.parse]
  simp only at hclean ⊢
  cases htp : takeScheme pre with
  | none => rw [schemeScan_none pre query htp, parseCore_none _ _ _ _ _ _ htp]; rfl
  | some sr =>
    obtain ⟨scheme, restp⟩ := sr
    obtain ⟨name, hscan, hps, hnoq, hnoh, htl, hlast⟩ := F.withScheme htp
    rw [hscan] at hclean ⊢
    simp only [hps] at hclean ⊢
    rw [parseCore_some _ _ _ _ _ _ _ _ htp]
    have hf := Proto.type_facts scheme
    by_cases h6 : (getSchemeType scheme == 6) = true
    · simp only [h6, ↓reduceIte, hf.2.1 ▸ h6]
      rw [afterSchemeFile_eq]
      exact fileB_spec idna none none fileBase_none restp _ _ query frag hid hnoq hnoh (sfx_QF frag) htl frag.isSome
    · have hnf : (scheme == bFile) = false := by rw [← hf.2.1]; simpa using h6
      simp only [h6, hnf, Bool.false_eq_true, ↓reduceIte] at hclean ⊢
      apply afterSchemeAny_spec idna scheme restp query frag hid hnoq hlast
      intro text v cr ha hv
      simp only [ha, hv] at hclean
      exact hclean

/-- `parse_url_impl<ada::url>(input, nullptr)` = the Standard's basic URL parser (fast path included) -/
theorem parseNoBase_spec (idna : Idna) (input : Bytes) (hid : ∀ d, HP.IdnaAt idna d)
    (hclean : BR.bracketOk (schemeSpecial input) (hostStart input) = true) :
    parseNoBase idna input = outOf (parse idna input none) := by
  have hm := machine_spec idna input hid hclean
  unfold parseNoBase
  split
  · exact hm
  · cases hts : SimpleAbs.trySimple input with
    | none => exact hm
    | some r =>
      obtain ⟨u, hu, hr⟩ := SA.trySimple_sound idna input r hts
      simp [hu, outOf, hr]
end AdaVerif.Lemmas.PS

namespace AdaVerif.Lemmas.PB
open AdaVerif AdaVerif.Spec AdaVerif.Lemmas AdaVerif.Lemmas.PS AdaVerif.Model AdaVerif.Model.ParseSpecial AdaVerif.Model.UrlRec
  AdaVerif.Model.HostParse

theorem fileBase_ok (b : Url) (hb : BaseOk b) : FileBase (fileBase (UR.recOf b)) (some b) := by
  have hf := Proto.type_facts b.scheme
  refine ⟨?_, ?_⟩
  · unfold fileBase baseIsFile
    rw [UR.recOf_scheme, hf.2.1]
    by_cases h : (b.scheme == bFile) = true
    · simp [h]
    · simp [h]
  · intro b' hb'
    unfold baseIsFile at hb'
    simp only at hb'
    split at hb'
    · rename_i hsc
      injection hb' with e
      subst e
      have : b.scheme = bFile := by simpa using hsc
      exact ⟨hb, special_not_opaque b hb.inv (by rw [this]; exact special_file)⟩
    · cases hb'

theorem same_type (s1 s2 : Bytes) (h1 : getSchemeType s2 ≠ 1) : (getSchemeType s1 == getSchemeType s2) = (s1 == s2) := by
  by_cases he : s1 = s2
  · subst he; simp
  · have : (s1 == s2) = false := by simpa using he
    rw [this]
    by_cases ht : getSchemeType s1 = getSchemeType s2
    · exfalso
      have f1 := (Proto.type_facts s1).2.2.2 (by rw [ht]; exact h1)
      have f2 := (Proto.type_facts s2).2.2.2 h1
      apply he
      rw [← f1.1, ← f2.1, ht]
    · simpa using ht

theorem take2_qs (restp : Bytes) (q : Option Bytes) :
    ((restp ++ qs q).take 2 == [0x2F, 0x2F]) = (restp.take 2 == [0x2F, 0x2F]) := by
  match restp with
  | [] => cases q <;> simp [qs]
  | [c] => cases q <;> simp [qs]
  | a :: b :: r => rfl

theorem take2_ss (restp : Bytes) (h : (restp.take 2 == [0x2F, 0x2F]) = true) : ∃ r2, restp = 0x2F :: 0x2F :: r2 := by
  match restp with
  | [] => simp at h
  | [c] => simp at h
  | a :: b :: r =>
    simp at h
    exact ⟨r, by rw [h.1, h.2]⟩
/-- `parse_url_impl<ada::url>(input, &base)` = the Standard's basic URL parser with that base, for every input and every
    base object that holds a record with the record invariants -/
theorem machineB_spec (idna : Idna) (b : Url) (hb : BaseOk b) (input : Bytes) (hid : ∀ d, HP.IdnaAt idna d)
    (hclean : BR.bracketOk (hostStartB (UR.recOf b) input).1 (hostStartB (UR.recOf b) input).2 = true) :
    machineB idna (UR.recOf b) input = outOf (parse idna input (some b)) := by
  obtain ⟨pre, query, frag, F⟩ := front input
  unfold machineB
  unfold hostStartB authStartB at hclean
  rw [F.prep] at hclean ⊢
  rw [F.parse]
  have hfb := fileBase_ok b hb
  have hfB := Proto.type_facts b.scheme
  simp only [UR.recOf_scheme, UR.recOf_opq] at hclean ⊢
  cases htp : takeScheme pre with
  | none =>
    rw [schemeScan_none pre query htp] at hclean ⊢
    rw [parseCore_none _ _ _ _ _ _ htp]
    simp only at hclean ⊢
    by_cases hop : b.isOpaque = true
    · -- an opaque base: of the eight cases (text in front of '?' empty or not, query or none, fragment or none) only
      -- "#fragment" alone goes through, on both sides
      cases pre <;> cases query <;> cases frag <;>
        simp [hop, qs, outOf, addQF, UR.recOf, Url.isSpecial, Url.pathSerialized, encFrag]
    · have hop' : b.isOpaque = false := by simpa using hop
      simp only [hop', Bool.false_eq_true, ↓reduceIte, Bool.false_and, Bool.false_or] at hclean ⊢
      rw [show (b.scheme != bFile) = (getSchemeType b.scheme != 6) by rw [bne, bne, hfB.2.1]]
      by_cases h6 : (getSchemeType b.scheme != 6) = true
      · have h6' : (getSchemeType b.scheme == 6) = false := by simpa [bne] using h6
        simp only [h6, h6', Bool.false_eq_true, ↓reduceIte] at hclean ⊢
        apply relativeScheme_spec idna b hb hop' pre query frag hid F.noQ
        intro sp text v cr ha hv
        simp only [ha, hv] at hclean
        exact hclean
      · simp only [h6, Bool.false_eq_true, ↓reduceIte]
        exact fileB_spec idna _ (some b) hfb pre _ _ query frag hid F.noQ F.noH (sfx_QF frag) F.text frag.isSome
  | some sr =>
    obtain ⟨scheme, restp⟩ := sr
    obtain ⟨name, hscan, hps, hnoq, hnoh, htl, hlast⟩ := F.withScheme htp
    rw [hscan] at hclean ⊢
    simp only [hps] at hclean ⊢
    rw [parseCore_some _ _ _ _ _ _ _ _ htp]
    have hf := Proto.type_facts scheme
    by_cases h6 : (getSchemeType scheme == 6) = true
    · simp only [h6, ↓reduceIte, hf.2.1 ▸ h6]
      exact fileB_spec idna _ (some b) hfb restp _ _ query frag hid hnoq hnoh (sfx_QF frag) htl frag.isSome
    have hnf : (scheme == bFile) = false := by rw [← hf.2.1]; simpa using h6
    simp only [h6, hnf, Bool.false_eq_true, ↓reduceIte] at hclean ⊢
    rw [Option.filter_some]
    by_cases hrel : (isSpecialScheme scheme && b.scheme == scheme) = true
    · -- SPECIAL_RELATIVE_OR_AUTHORITY
      simp only [hrel, ↓reduceIte]
      simp only [Bool.and_eq_true] at hrel
      obtain ⟨hsp, hsame⟩ := hrel
      have hne1 : (getSchemeType scheme != 1) = true := hf.1.trans hsp
      have hnoop : b.isOpaque = false := special_not_opaque b hb.inv (by rw [eq_of_beq hsame]; exact hsp)
      rw [same_type b.scheme scheme (by simpa using hne1)] at hclean ⊢
      simp only [hne1, hsame, Bool.and_self, ↓reduceIte] at hclean ⊢
      rw [take2_qs restp query] at hclean ⊢
      unfold sraSpec
      by_cases hss2 : (restp.take 2 == [0x2F, 0x2F]) = true
      · obtain ⟨r2, hr2⟩ := take2_ss restp hss2
        subst hr2
        simp only [hss2, ↓reduceIte] at hclean ⊢
        rw [show ((0x2F :: 0x2F :: r2) ++ qs query).drop 2 = r2 ++ qs query from rfl, dropSlashes_qs] at hclean ⊢
        refine afterSlashes_spec idna true scheme hsp (skipSlashes r2) query frag hid
          (fun h => hnoq (by simp [(List.dropWhile_sublist _).subset h])) ?_
        intro v cr hv
        simp only [hv] at hclean
        exact hclean
      · simp only [hss2, Bool.false_eq_true, ↓reduceIte] at hclean ⊢
        split
        · simp at hss2
        · simp only [hnoop, Bool.false_eq_true, ↓reduceIte]
          apply relativeScheme_spec idna b hb hnoop restp query frag hid hnoq
          intro sp text v cr ha hv
          simp only [ha, hv] at hclean
          exact hclean
    · -- the base plays no part
      have hmodel : (getSchemeType scheme != 1 && getSchemeType b.scheme == getSchemeType scheme) = false := by
        cases hne1 : (getSchemeType scheme != 1) with
        | false => rfl
        | true => rw [same_type b.scheme scheme (by simpa using hne1)]; rw [hf.1] at hne1; simpa [hne1] using hrel
      simp only [hmodel, hrel, Bool.false_eq_true, ↓reduceIte] at hclean ⊢
      apply afterSchemeAny_spec idna scheme restp query frag hid hnoq hlast
      intro text v cr ha hv
      simp only [ha, Option.map_some, hv] at hclean
      exact hclean

def outOfL (L : Nat) (input : Bytes) (o : Option Url) : Out :=
  match o with
  | some u => if input.length ≤ L ∧ getHrefSize (UR.recOf u) ≤ L then .ok (UR.recOf u) else .invalid
  | none => .invalid

theorem limited_outOf (L : Nat) (input : Bytes) (o : Option Url) : limited L input (outOf o) = outOfL L input o := by
  cases o with
  | none => simp [limited, outOfL, outOf]
  | some u =>
    simp only [limited, outOfL, outOf, UR.ite_gt]
    by_cases h1 : input.length ≤ L <;> by_cases h2 : getHrefSize (UR.recOf u) ≤ L <;> simp [h1, h2]

/-- `url::set_href` = the Standard's href setter, within the limit -/
theorem setHrefR_eq (idna : Idna) (L : Nat) (u : Url) (v : Bytes) (hid : ∀ d, HP.IdnaAt idna d)
    (hclean : BR.bracketOk (schemeSpecial v) (hostStart v) = true) :
    setHrefR idna L (UR.recOf u) v =
      match parse idna v none with
      | some n => if v.length ≤ L ∧ getHrefSize (UR.recOf n) ≤ L then (UR.recOf n, true) else (UR.recOf u, false)
      | none => (UR.recOf u, false) := by
  unfold setHrefR parseNoBaseL
  rw [parseNoBase_spec idna v hid hclean, limited_outOf]
  unfold outOfL
  cases parse idna v none with
  | none => rfl
  | some n =>
    simp only
    by_cases h : v.length ≤ L ∧ getHrefSize (UR.recOf n) ≤ L
    · have : ¬ getHrefSize (UR.recOf n) > L := by omega
      simp [h, this]
    · simp [h]

theorem getHostR_recOf (u : Url) (hp : ∀ p, u.port = some p → p < 65536) : getHostR (UR.recOf u) = u.getHost := by
  unfold getHostR Url.getHost
  cases hh : u.host with
  | none => simp [UR.recOf, hh]
  | some h =>
    cases hpo : u.port with
    | none => simp [UR.recOf, hh, hpo]
    | some p => simp [UR.recOf, hh, hpo, UR.dec16_eq p (hp p hpo)]

theorem type_http (s : Bytes) : (getSchemeType s == 0 || getSchemeType s == 2) = (s == bHttp || s == bHttps) := by
  -- on the six special names both sides are evaluated; every other name has type 1 and is none of the two
  by_cases hm : s ∈ [bHttp, bHttps, bWs, bFtp, bWss, bFile]
  · revert s
    decide +kernel
  · rw [getSchemeType_other s hm]
    simp only [List.mem_cons, List.not_mem_nil, or_false, not_or] at hm
    simp [hm.1, hm.2.1]

theorem port_lt_of_recInv (u : Url) (hinv : RecInv u = true) : ∀ p, u.port = some p → p < 65536 := by
  intro p hpp
  have := ((recInv_iff u).1 hinv).port
  rw [hpp] at this
  exact Nat.lt_succ_of_le this.1

/-- `url::get_origin` is the Standard's origin serialisation (the inner parse of a blob URL under the side conditions of
    the parser theorem, stated for the path text) -/
theorem getOriginR_eq (idna : Idna) (u : Url) (hport : ∀ p, u.port = some p → p < 65536) (hid : ∀ d, HP.IdnaAt idna d)
    (hclean : u.scheme = bBlob → BR.bracketOk (schemeSpecial u.pathSerialized) (hostStart u.pathSerialized) = true) :
    getOriginR idna (UR.recOf u) = u.origin idna := by
  unfold getOriginR Url.origin
  have hf := Proto.type_facts u.scheme
  rw [UR.recOf_special, UR.recOf_scheme, UR.recOf_path]
  by_cases hblob : u.scheme = bBlob
  · have hb' : (u.scheme == bBlob) = true := by simpa using hblob
    have hns : isSpecialScheme u.scheme = false := by rw [hblob]; decide
    simp only [hns, Bool.false_eq_true, ↓reduceIte, hb', Bool.true_and]
    by_cases hemp : u.pathSerialized.isEmpty = true
    · -- an empty path parses to nothing
      have hpe : u.pathSerialized = [] := by simpa using hemp
      simp only [hpe]
      have : parse idna [] none = none := by
        unfold parse preprocess dropWhileEnd
        simp [cutAt, parseCore, takeScheme]
      rw [this]
      rfl
    · simp only [hemp, Bool.not_false, ↓reduceIte]
      rw [PS.parseNoBase_spec idna u.pathSerialized hid (hclean hblob)]
      cases hp : parse idna u.pathSerialized none with
      | none => rfl
      | some p =>
        simp only [PS.outOf]
        have hpp := port_lt_of_recInv p (parse_inv idna u.pathSerialized none p (by intro b hb; cases hb) hp)
        rw [UR.recOf_scheme, type_http, getHostR_recOf p hpp]
        simp [tupleOrigin, bNullB, bNull, List.append_assoc]
  · have hb' : (u.scheme == bBlob) = false := by simpa using hblob
    simp only [hb', Bool.false_and, Bool.false_eq_true, ↓reduceIte]
    rw [hf.2.1]
    by_cases hs : isSpecialScheme u.scheme = true
    · simp only [hs, ↓reduceIte]
      by_cases hfile : (u.scheme == bFile) = true
      · simp [hfile, bNullB, bNull]
      · simp only [hfile, Bool.false_eq_true, ↓reduceIte]
        rw [getHostR_recOf u hport]
        simp [tupleOrigin, List.append_assoc]
    · have hs' : isSpecialScheme u.scheme = false := by simpa using hs
      simp only [hs', Bool.false_eq_true, ↓reduceIte]
      have hfile : (u.scheme == bFile) = false := by
        cases h : (u.scheme == bFile) with
        | false => rfl
        | true =>
          have : u.scheme = bFile := by simpa using h
          rw [this] at hs'; exact absurd hs' (by decide)
      simp [hfile, bNullB, bNull]

theorem relAuthSlash_sub (sp : Bool) (r : Bytes) (sp' : Bool) (text : Bytes) (h : relAuthSlash sp r = some (sp', text)) :
    List.Sublist text r := by
  unfold relAuthSlash at h
  split at h
  · split at h
    · injection h with h; injection h with _ h; subst h
      exact (List.dropWhile_sublist _).trans (List.sublist_cons_self _ _)
    · split at h
      · injection h with h; injection h with _ h; subst h
        exact List.sublist_cons_self _ _
      · cases h
  · cases h

theorem relAuth_sub (b : Rec) (t : Bytes) (sp' : Bool) (text : Bytes) (h : relAuth b t = some (sp', text)) : List.Sublist text t := by
  unfold relAuth at h
  split at h
  · split at h
    · exact (relAuthSlash_sub _ _ _ _ h).trans (List.sublist_cons_self _ _)
    · cases h
  · cases h

theorem authStartB_sub (b : Rec) (input : Bytes) (sp : Bool) (text : Bytes) (h : authStartB b input = some (sp, text)) :
    List.Sublist text input := by
  unfold authStartB at h
  have hd := prep_sub input
  generalize (prep input).1 = d at hd h
  simp only at h
  cases hss : schemeScan d with
  | none =>
    rw [hss] at h
    simp only at h
    split at h
    · cases h
    · exact (relAuth_sub b d sp text h).trans hd
  | some nr =>
    obtain ⟨n, r⟩ := nr
    rw [hss] at h
    simp only at h
    have hr := (schemeScan_sub d n r hss).trans hd
    split at h
    · cases h
    · split at h
      · split at h
        · injection h with h; injection h with _ h; subst h
          exact ((List.dropWhile_sublist _).trans (List.drop_sublist _ _)).trans hr
        · exact (relAuth_sub b r sp text h).trans hr
      · cases hat : authText ((parseSchemeNoOverride n).1 != 1) r with
        | none => rw [hat] at h; cases h
        | some t =>
          rw [hat] at h
          simp only [Option.map_some, Option.some.injEq, Prod.mk.injEq] at h
          exact h.2 ▸ (authText_sub _ r t hat).trans hr

theorem clean_of_no_bracket_base (b : Rec) (input : Bytes) (h : (0x5B : UInt8) ∉ input) :
    BR.bracketOk (hostStartB b input).1 (hostStartB b input).2 = true := by
  apply BR.bracketOk_of_clean
  apply bracketClean_of_no_bracket
  intro hm
  apply h
  unfold hostStartB at hm
  cases ha : authStartB b input with
  | none => rw [ha] at hm; cases hm
  | some st =>
    obtain ⟨sp, text⟩ := st
    rw [ha] at hm
    simp only at hm
    cases hv : authority sp text with
    | none => rw [hv] at hm; cases hm
    | some vc =>
      obtain ⟨v, cr⟩ := vc
      rw [hv] at hm
      simp only at hm
      exact ((authority_sub sp text v cr hv).trans (authStartB_sub b input sp text ha)).subset hm

end AdaVerif.Lemmas.PB
