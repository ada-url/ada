import AdaVerif.Spec.Sets
import AdaVerif.Model.Encode
import AdaVerif.Lemmas.TableWalk
/-
The generated tables of the encoder are the Standard's sets and escapes (each table evaluated once, here);
the encoders are `flatMap`, the index search is "first index".
-/
namespace AdaVerif.Lemmas
open AdaVerif AdaVerif.Model

/-- One evaluation for the seven bitmaps: the sets are nested, so the kernel meets each `Spec.inX b` once.
    The form bitmap leaves space out: the serializer writes it as `+`. -/
theorem set_tables : ∀ b : UInt8,
    bitAt Gen.c0Set b = Spec.inC0 b ∧ bitAt Gen.fragmentSet b = Spec.inFragment b ∧
    bitAt Gen.querySet b = Spec.inQuery b ∧ bitAt Gen.specialQuerySet b = Spec.inSpecialQuery b ∧
    bitAt Gen.pathSet b = Spec.inPath b ∧ bitAt Gen.userinfoSet b = Spec.inUserinfo b ∧
    bitAt Gen.formSet b = (Spec.inForm b && b != 0x20) := by
  apply forall_uint8_of_fin; decide +kernel

theorem bitAt_c0Set : bitAt Gen.c0Set = Spec.inC0 := funext fun b => (set_tables b).1
theorem bitAt_fragmentSet : bitAt Gen.fragmentSet = Spec.inFragment := funext fun b => (set_tables b).2.1
theorem bitAt_querySet : bitAt Gen.querySet = Spec.inQuery := funext fun b => (set_tables b).2.2.1
theorem bitAt_specialQuerySet : bitAt Gen.specialQuerySet = Spec.inSpecialQuery :=
  funext fun b => (set_tables b).2.2.2.1
theorem bitAt_pathSet : bitAt Gen.pathSet = Spec.inPath := funext fun b => (set_tables b).2.2.2.2.1
theorem bitAt_userinfoSet : bitAt Gen.userinfoSet = Spec.inUserinfo := funext fun b => (set_tables b).2.2.2.2.2.1
theorem bitAt_formSet (b : UInt8) : bitAt Gen.formSet b = (Spec.inForm b && b != 0x20) :=
  (set_tables b).2.2.2.2.2.2

theorem kRest_spec : ∀ b : UInt8,
    (tget Gen.kRest b.toNat = 0 →
      Spec.inPath b = false ∧ Spec.inSpecialQuery b = false ∧ Spec.inFragment b = false ∧
      b ≠ 0x25 ∧ b ≠ 0x5C ∧ b ≠ 0x3F ∧ b ≠ 0x23) ∧
    (tget Gen.kRest b.toNat = 1 ↔ (b = 0x3F ∨ b = 0x23)) :=
  forall_tget (T := Gen.kRest)
    (Q := fun b v => (v = 0 → Spec.inPath b = false ∧ Spec.inSpecialQuery b = false ∧ Spec.inFragment b = false ∧
      b ≠ 0x25 ∧ b ≠ 0x5C ∧ b ≠ 0x3F ∧ b ≠ 0x23) ∧ (v = 1 ↔ (b = 0x3F ∨ b = 0x23)))
    (by decide +kernel) (by decide +kernel)

theorem hexUpper_spec : ∀ n, n < 16 → isAsciiHexDigit (hexUpper n) = true ∧ hexVal (hexUpper n) = n := by
  decide

theorem getElem?_flatMap_rows {α β : Type} (f : α → List β) (w : Nat) (hw : ∀ a, (f a).length = w) :
    ∀ (l : List α) (i j : Nat) (hi : i < l.length), j < w → (l.flatMap f)[w * i + j]? = (f l[i])[j]?
  | a :: l, 0, j, _, hj => by
    rw [List.flatMap_cons, Nat.mul_zero, Nat.zero_add, List.getElem?_append_left (by rw [hw]; exact hj)]
    rfl
  | a :: l, i + 1, j, hi, hj => by
    have : w * (i + 1) + j - w = w * i + j := by rw [Nat.mul_succ]; omega
    rw [List.flatMap_cons, List.getElem?_append_right (by rw [hw, Nat.mul_succ]; omega), hw, this,
      getElem?_flatMap_rows f w hw l i j (by simpa using hi) hj]
    rfl

/-- `character_sets::hex`: the 256 escapes, each NUL-terminated -/
theorem hexTable_rows :
    Gen.hexTable = (List.range 256).flatMap fun n => (Spec.pctByte (UInt8.ofNat n)).map UInt8.toNat ++ [0] := by
  decide +kernel

theorem hexRow_eq (b : UInt8) : hexRow b = Spec.pctByte b := by
  have row (j : Nat) (hj : j < 4) :
      tget Gen.hexTable (4 * b.toNat + j) = ((Spec.pctByte b).map UInt8.toNat ++ [0]).getD j 0 := by
    unfold tget
    rw [List.getD_eq_getElem?_getD, List.getD_eq_getElem?_getD, hexTable_rows,
      getElem?_flatMap_rows _ 4 (fun _ => rfl) _ _ _ (by simpa using b.toNat_lt) hj]
    simp
  unfold hexRow
  rw [← Nat.add_zero (4 * b.toNat), row 0 (by decide), Nat.add_zero, row 1 (by decide), row 2 (by decide)]
  simp [Spec.pctByte]

theorem encodeLoop_eq (set : List Nat) (s : Bytes) :
    encodeLoop set s = Spec.percentEncode (bitAt set) s := by
  induction s with
  | nil => rfl
  | cons b rest ih =>
    simp only [encodeLoop, Spec.percentEncode, List.flatMap_cons, hexRow_eq] at *
    rw [ih]

theorem findFirst_le (set : List Nat) (s : Bytes) : findFirst set s ≤ s.length := by
  induction s with
  | nil => simp [findFirst]
  | cons b rest ih => simp only [findFirst]; split <;> simp <;> omega

theorem spec_take_findFirst (set : List Nat) (s : Bytes) :
    Spec.percentEncode (bitAt set) (s.take (findFirst set s)) = s.take (findFirst set s) := by
  induction s with
  | nil => simp [findFirst, Spec.percentEncode]
  | cons b rest ih =>
    simp only [findFirst]
    split
    · simp [Spec.percentEncode]
    · rename_i h
      have : 1 + findFirst set rest = findFirst set rest + 1 := by omega
      rw [this, List.take_succ_cons]
      simp only [Spec.percentEncode, List.flatMap_cons, h] at *
      simp [ih]

theorem findFirst_eq_length (set : List Nat) (s : Bytes) (h : findFirst set s = s.length) :
    Spec.percentEncode (bitAt set) s = s := by
  have := spec_take_findFirst set s
  rw [h, List.take_length] at this
  exact this

theorem percentEncodeFrom_eq (set : List Nat) (s : Bytes) (i : Nat)
    (h : Spec.percentEncode (bitAt set) (s.take i) = s.take i) :
    percentEncodeFrom set s i = Spec.percentEncode (bitAt set) s := by
  unfold percentEncodeFrom
  rw [encodeLoop_eq]
  conv => rhs; rw [← List.take_append_drop i s]
  unfold Spec.percentEncode at h ⊢
  rw [List.flatMap_append, h]

/-- the other two encoders start their loop at the first hit -/
theorem percentEncodeFrom_findFirst (set : List Nat) (s : Bytes) :
    s.take (findFirst set s) ++ encodeLoop set (s.drop (findFirst set s)) = Spec.percentEncode (bitAt set) s :=
  percentEncodeFrom_eq set s _ (spec_take_findFirst set s)

theorem percentEncode_eq (set : List Nat) (s : Bytes) :
    percentEncode set s = Spec.percentEncode (bitAt set) s := by
  unfold percentEncode
  simp only
  split
  · rename_i h
    exact (findFirst_eq_length set s (by simpa using h)).symm
  · exact percentEncodeFrom_findFirst set s

theorem percentEncodeInto_none (app : Bool) (set : List Nat) (s out : Bytes)
    (h : percentEncodeInto app set s out = none) : Spec.percentEncode (bitAt set) s = s := by
  unfold percentEncodeInto at h
  simp only at h
  split at h
  · rename_i h'; exact findFirst_eq_length set s (by simpa using h')
  · cases h

theorem percentEncodeInto_some (app : Bool) (set : List Nat) (s out o : Bytes)
    (h : percentEncodeInto app set s out = some o) :
    o = (if app then out else []) ++ Spec.percentEncode (bitAt set) s := by
  unfold percentEncodeInto at h
  simp only at h
  split at h
  · cases h
  · injection h with h
    rw [← h, List.append_assoc, percentEncodeFrom_findFirst]

theorem indexTail_eq (set : List Nat) (i : Nat) (s : Bytes) :
    indexTail set i s = i + findFirst set s := by
  induction s generalizing i with
  | nil => simp [indexTail, findFirst]
  | cons b rest ih =>
    simp only [indexTail, findFirst]
    split
    · simp
    · rw [ih]; omega

theorem percentEncodeIndex_eq (set : List Nat) (i : Nat) (s : Bytes) :
    percentEncodeIndex set i s = i + findFirst set s := by
  fun_induction percentEncodeIndex set i s
  -- the ninth case: all eight bytes of the chunk miss, the search goes on behind them
  case case9 ih => simp [findFirst, *]; omega
  -- the tenth: fewer than eight bytes are left, the scalar tail takes over
  case case10 => exact indexTail_eq ..
  -- the first eight: a hit at that position of the chunk
  all_goals simp [findFirst, *]

end AdaVerif.Lemmas
