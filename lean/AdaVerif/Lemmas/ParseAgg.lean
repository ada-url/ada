import AdaVerif.Model.ParseAgg
import AdaVerif.Lemmas.ParseSpecial
import AdaVerif.Lemmas.AggEditors
import AdaVerif.Lemmas.AggSetters
import AdaVerif.Lemmas.AggHostSetter
import AdaVerif.Props.C07
import AdaVerif.Lemmas.HostFixed
/-
`parse_url_impl<ada::url_aggregator>(input, nullptr)` (Model/ParseAgg.lean) lays out, in the single buffer, exactly the
fields that `parse_url_impl<ada::url>` (Model/ParseSpecial.lean) computes: every editor call of the aggregator's branches
commutes with the layout (C07), so the two instantiations of the template stay in step from SCHEME to the fragment.
-/
namespace AdaVerif.Lemmas.PA
open AdaVerif AdaVerif.Spec AdaVerif.Lemmas AdaVerif.Lemmas.AggL AdaVerif.Model AdaVerif.Model.Agg AdaVerif.Model.ParseSpecial
  AdaVerif.Model.ParseAgg AdaVerif.Model.UrlRec AdaVerif.Model.HostParse

/-- the answer of the aggregator instantiation that corresponds to an answer of the `ada::url` instantiation -/
def aggOf : Out → Option Agg
  | .invalid => none
  | .ok r => some (layout (toL r))

/-- the content while SCHEME … AUTHORITY run: scheme (with ':'), "//" or not, credentials so far -/
def LA (s : Bytes) (auth : Bool) (user pass : Bytes) : L :=
  { scheme := s, auth := auth, user := user, pass := pass, host := [], port := none, dashdot := false, path := [], query := none,
    frag := none, opq := false }

theorem LA_tail (s : Bytes) (auth : Bool) (u p : Bytes) : TailNoAt (LA s auth u p) := by
  simp [TailNoAt, LA, portS, ddS, queryS, fragS]

theorem setSchemeWithColon_empty (s : Bytes) : setSchemeWithColon emptyAgg s = layout (LA s false [] []) := by
  simp [setSchemeWithColon, emptyAgg, layout, LA, shift, shiftO, authS, passS, atS, portS, ddS, queryS, fragS]

theorem setScheme_empty (s : Bytes) : setScheme emptyAgg s = layout (LA (s ++ [0x3A]) false [] []) := by
  simp [setScheme, emptyAgg, layout, LA, shift, shiftO, authS, passS, atS, portS, ddS, queryS, fragS]

theorem parseSchemeA_eq (name : Bytes) :
    parseSchemeA emptyAgg name = ((parseSchemeNoOverride name).1, layout (LA ((parseSchemeNoOverride name).2 ++ [0x3A]) false [] [])) := by
  rw [PS.parseSchemeNoOverride_spec]
  unfold parseSchemeA
  have hf := Proto.type_facts name
  by_cases hpt : (getSchemeType name != 1) = true
  · have hne : getSchemeType name ≠ 1 := by simpa using hpt
    obtain ⟨_, hlow⟩ := hf.2.2.2 hne
    simp only [hpt, ↓reduceIte, hlow, setSchemeWithColon_empty]
  · simp only [hpt, Bool.false_eq_true, ↓reduceIte, setScheme_empty]

theorem file_of_type (s : Bytes) (h : (getSchemeType s == 6) = true) : s = bFile := by
  have := (Proto.type_facts s).2.1
  rw [h] at this
  simpa using this.symm

theorem LA_slashes (s : Bytes) (au : Bool) (u p : Bytes) (hna : au = false → u = [] ∧ p = []) :
    addAuthoritySlashes (layout (LA s au u p)) = layout (LA s true u p) :=
  addAuthoritySlashes_layout _ (show NoAuthNoCred (LA s au u p) from hna)

theorem appendUser_LA (s : Bytes) (au : Bool) (u p x : Bytes) (hna : au = false → u = [] ∧ p = []) :
    appendBaseUsername (layout (LA s au u p)) x = layout (LA s true (u ++ x) p) := by
  have h1 : appendBaseUsername (layout (LA s au u p)) x = appendBaseUsername (layout (LA s true u p)) x := by
    unfold appendBaseUsername
    rw [LA_slashes s au u p hna, addAuthoritySlashes_auth (LA s true u p) rfl]
  rw [h1]
  by_cases hx : x = []
  · subst hx
    unfold appendBaseUsername
    rw [addAuthoritySlashes_auth (LA s true u p) rfl, List.append_nil]
    rfl
  · exact appendBaseUsername_auth' (LA s true u p) x hx rfl (LA_tail _ _ _ _)
      (by intro _; simp only [LA, List.length_nil]; intro h; exact hx (List.eq_nil_of_length_eq_zero h))

theorem appendPass_LA (s : Bytes) (au : Bool) (u p x : Bytes) (hna : au = false → u = [] ∧ p = []) :
    appendBasePassword (layout (LA s au u p)) x = layout (LA s true u (p ++ x)) := by
  have h1 : appendBasePassword (layout (LA s au u p)) x = appendBasePassword (layout (LA s true u p)) x := by
    unfold appendBasePassword
    rw [LA_slashes s au u p hna, addAuthoritySlashes_auth (LA s true u p) rfl]
  rw [h1]
  by_cases hx : x = []
  · subst hx
    unfold appendBasePassword
    rw [addAuthoritySlashes_auth (LA s true u p) rfl, List.append_nil]
    rfl
  · exact appendBasePassword_auth (LA s true u p) x hx rfl (LA_tail _ _ _ _)

theorem appendUser_auth (s u p x : Bytes) : appendBaseUsername (layout (LA s true u p)) x = layout (LA s true (u ++ x) p) :=
  appendUser_LA s true u p x (by intro h; cases h)
theorem appendPass_auth (s u p x : Bytes) : appendBasePassword (layout (LA s true u p)) x = layout (LA s true u (p ++ x)) :=
  appendPass_LA s true u p x (by intro h; cases h)
theorem appendUser_bare (s x : Bytes) : appendBaseUsername (layout (LA s false [] [])) x = layout (LA s true x []) := by
  have := appendUser_LA s false [] [] x (fun _ => ⟨rfl, rfl⟩)
  simpa using this
theorem appendPass_bare (s x : Bytes) : appendBasePassword (layout (LA s false [] [])) x = layout (LA s true [] x) := by
  have := appendPass_LA s false [] [] x (fun _ => ⟨rfl, rfl⟩)
  simpa using this

theorem absorbA_eq (s : Bytes) (st : Cred) (p : Bytes) (hna : st.atSeen = false → st.user = [] ∧ st.pass = []) :
    absorbA (layout (LA s st.atSeen st.user st.pass)) ⟨st.atSeen, st.tokenSeen⟩ p =
      (layout (LA s true (absorb st p).user (absorb st p).pass), ⟨(absorb st p).atSeen, (absorb st p).tokenSeen⟩) := by
  unfold absorbA absorb
  cases hat : st.atSeen
  · -- the first '@'
    obtain ⟨hu, hp⟩ := hna hat
    simp only [Bool.false_eq_true, ↓reduceIte, hu, hp]
    cases htk : st.tokenSeen
    · simp only [Bool.not_false, ↓reduceIte]
      cases findColon p with
      | none => simp only [appendUser_bare, List.nil_append]
      | some k => simp only [appendUser_bare, appendPass_auth, List.nil_append]
    · simp only [Bool.not_true, Bool.false_eq_true, ↓reduceIte, appendPass_bare, List.nil_append]
  · simp only [↓reduceIte]
    cases htk : st.tokenSeen
    · simp only [Bool.false_eq_true, ↓reduceIte, Bool.not_false, appendUser_auth]
      cases findColon p with
      | none => rfl
      | some k => simp only [appendPass_auth]
    · simp only [↓reduceIte, Bool.not_true, Bool.false_eq_true, appendPass_auth]

theorem absorb_atSeen (st : Cred) (p : Bytes) : (absorb st p).atSeen = true := by
  obtain ⟨u, pw, a, t⟩ := st
  cases t
  · cases a <;> simp only [absorb, Bool.false_eq_true, ↓reduceIte, Bool.not_false] <;> cases findColon p <;> rfl
  · cases a <;> rfl

theorem authLoop_other (sp : Bool) (f : Nat) (v : Bytes) (st : Cred)
    (h : ∀ rest, v.drop (authDelim sp v) ≠ 0x40 :: rest) :
    authLoop sp (f + 1) v st = if st.atSeen && (v.take (authDelim sp v)).isEmpty then none else some (v, st) := by
  rw [authLoop]
  split
  · exact absurd ‹_› (h _)
  · rfl

theorem authLoop_at (sp : Bool) (f : Nat) (v : Bytes) (st : Cred) (rest : Bytes) (h : v.drop (authDelim sp v) = 0x40 :: rest) :
    authLoop sp (f + 1) v st = authLoop sp f rest (absorb st (v.take (authDelim sp v))) := by
  rw [authLoop]
  simp only [h]

theorem authLoopA_other (sp : Bool) (f : Nat) (v : Bytes) (a : Agg) (fl : Flags)
    (h : ∀ rest, v.drop (authDelim sp v) ≠ 0x40 :: rest) :
    authLoopA sp (f + 1) v a fl = if fl.atSeen && (v.take (authDelim sp v)).isEmpty then none else some (v, a) := by
  rw [authLoopA]
  split
  · exact absurd ‹_› (h _)
  · rfl

theorem authLoopA_at (sp : Bool) (f : Nat) (v : Bytes) (a : Agg) (fl : Flags) (rest : Bytes) (h : v.drop (authDelim sp v) = 0x40 :: rest) :
    authLoopA sp (f + 1) v a fl =
      authLoopA sp f rest (absorbA a fl (v.take (authDelim sp v))).1 (absorbA a fl (v.take (authDelim sp v))).2 := by
  rw [authLoopA]
  simp only [h]

theorem authLoopA_eq (sp : Bool) (s : Bytes) : ∀ (f : Nat) (v : Bytes) (st : Cred),
    (st.atSeen = false → st.user = [] ∧ st.pass = []) →
    authLoopA sp f v (layout (LA s st.atSeen st.user st.pass)) ⟨st.atSeen, st.tokenSeen⟩ =
      (authLoop sp f v st).map (fun r => (r.1, layout (LA s r.2.atSeen r.2.user r.2.pass))) := by
  intro f
  induction f with
  | zero => intro v st _; rfl
  | succ f ih =>
    intro v st hna
    by_cases hat : ∃ rest, v.drop (authDelim sp v) = 0x40 :: rest
    · obtain ⟨rest, hdr⟩ := hat
      rw [authLoopA_at sp f v _ _ rest hdr, authLoop_at sp f v st rest hdr, absorbA_eq s st _ hna]
      have := ih rest (absorb st (v.take (authDelim sp v))) (by intro h; rw [absorb_atSeen] at h; cases h)
      rw [absorb_atSeen] at this ⊢
      exact this
    · have hno : ∀ rest, v.drop (authDelim sp v) ≠ 0x40 :: rest := fun rest h => hat ⟨rest, h⟩
      rw [authLoopA_other sp f v _ _ hno, authLoop_other sp f v st hno]
      split <;> rfl

theorem authorityA_eq (sp : Bool) (s : Bytes) (v : Bytes) :
    authorityA sp v (layout (LA s false [] [])) =
      (authority sp v).map (fun r => (r.1, layout (LA s r.2.atSeen r.2.user r.2.pass))) := by
  unfold authorityA authority
  split
  · rfl
  · exact authLoopA_eq sp s (v.length + 1) v {} (fun _ => ⟨rfl, rfl⟩)

/-- the content once the host is there -/
def LH (s u p h : Bytes) (port : Option Nat) : L :=
  { scheme := s, auth := true, user := u, pass := p, host := h, port := port.map (fun x => (x, dec16 x)), dashdot := false, path := [],
    query := none, frag := none, opq := false }

theorem hostname_LA (s : Bytes) (au : Bool) (u p h : Bytes) (hna : au = false → u = [] ∧ p = []) :
    updateBaseHostname (layout (LA s au u p)) h = layout (LH s u p h none) := by
  rw [updateBaseHostname_layout _ h (show NoAuthNoCred (LA s au u p) from hna)]
  rfl

theorem parseHostAgg_LA (idna : Idna) (sp : Bool) (s : Bytes) (au : Bool) (u p hv : Bytes) (hna : au = false → u = [] ∧ p = []) :
    parseHostAgg idna sp (layout (LA s au u p)) hv = (parseHost idna sp hv).map (fun r => layout (LH s u p r.1 none)) := by
  unfold parseHostAgg
  rw [HP.parseHostA_eq]
  cases parseHost idna sp hv with
  | none => rfl
  | some r => simp only [Option.map_some, hostname_LA s au u p r.1 hna]

theorem parsePortA_LH (sp : Bool) (dflt : Nat) (s u p h view : Bytes) :
    parsePortA sp dflt (layout (LH s u p h none)) view =
      (parsePortTrailing sp dflt view).map (fun pr => (layout (LH s u p h pr.1), pr.2)) := by
  unfold parsePortA
  cases parsePortTrailing sp dflt view with
  | none => rfl
  | some pr =>
    obtain ⟨port, rest⟩ := pr
    simp only [Option.map_some]
    cases port with
    | none =>
      simp only
      rw [clearPort_none (LH s u p h none) rfl]
    | some x =>
      simp only
      rw [updateBasePort_layout (LH s u p h none) x (dec16 x) rfl]
      rfl

theorem view_head (t : Bytes) (h : t.head? ≠ some 0x2F) : (t.takeWhile (· != 0x3F)).head? ≠ some 0x2F := by
  cases t with
  | nil => simp
  | cons c r =>
    by_cases hc : (c != 0x3F) = true
    · simp only [List.takeWhile_cons, hc, ↓reduceIte, List.head?_cons]
      simpa using h
    · simp [hc]

theorem ss_cons (view : Bytes) (h : view.head? ≠ some 0x2F) : startsWithSlashSlash (0x2F :: view) = false := by
  cases view with
  | nil => rfl
  | cons c r =>
    have : c ≠ 0x2F := by simpa using h
    unfold startsWithSlashSlash
    split
    · rename_i heq; injection heq with _ heq; injection heq with e _; exact absurd e this
    · rfl

theorem pathQA_layout (sp : Bool) (ty : Nat) (l : L) (t : Bytes) (hna : NoAuthNoCred l) (hdd : l.dashdot = false) (hp : l.path = [])
    (hq : l.query = none) (hf : l.frag = none) (hopq : l.opq = false) (hh : l.auth = true ∨ t.head? ≠ some 0x2F) :
    pathQA sp ty (layout l) t =
      layout { l with dashdot := !l.auth && startsWithSlashSlash (pathQ sp ty t).1, path := (pathQ sp ty t).1, query := (pathQ sp ty t).2 } := by
  unfold pathQA pathQ
  simp only
  generalize hview : t.takeWhile (· != 0x3F) = view
  have hvh : l.auth = true ∨ view.head? ≠ some 0x2F := by
    rcases hh with h | h
    · exact Or.inl h
    · exact Or.inr (by rw [← hview]; exact view_head t h)
  have hcp : consumePreparedPath (layout l) ty view =
      layout { l with dashdot := !l.auth && startsWithSlashSlash (PathPrepared.parsePreparedPath view ty []),
                      path := PathPrepared.parsePreparedPath view ty [] } := by
    rw [Props.C07.consume_prepared_path_layout l ty view hna (by intro h; rw [hdd] at h; cases h), isAtPath_of l hp hq hf]
    unfold PathPrepared.parsePreparedPath
    by_cases htr : PathPrepared.isTrivial view ty = true
    · simp only [htr, Bool.and_self, ↓reduceIte, List.nil_append, List.singleton_append]
      have hss : (!l.auth && startsWithSlashSlash (0x2F :: view)) = false := by
        rcases hvh with h | h
        · simp [h]
        · simp [ss_cons view h]
      rw [hss, ← hdd]
    · simp only [htr, Bool.false_and, Bool.false_eq_true, ↓reduceIte, hp]
      have : newDashDot l (PathPrepared.pathLoops view ty []) = (!l.auth && startsWithSlashSlash (PathPrepared.pathLoops view ty [])) := by
        unfold newDashDot
        rw [hdd, hopq]
        cases startsWithSlashSlash (PathPrepared.pathLoops view ty []) <;> simp
      rw [this]
  rw [hcp]
  by_cases hlt : view.length < t.length
  · simp only [hlt, ↓reduceIte, Option.map_some, updateBaseSearch_layout]
    rfl
  · simp only [hlt, ↓reduceIte, Option.map_none]
    rw [← hq]

theorem withFragment_layout (l : L) (frag : Option Bytes) (hf : l.frag = none) :
    withFragment (layout l) frag = layout { l with frag := frag.map (percentEncode inFragment) } := by
  cases frag with
  | none => simp only [withFragment, Option.map_none]; rw [← hf]
  | some f => simp only [withFragment, Option.map_some, updateBaseHash_layout]

theorem LH_noAuthNoCred (s u p h : Bytes) (port : Option Nat) : NoAuthNoCred (LH s u p h port) := by
  intro h; cases h

theorem pathAndQueryA_LH (sp : Bool) (ty : Nat) (s u p h : Bytes) (port : Option Nat) (t : Bytes) :
    pathAndQueryA sp ty (layout (LH s u p h port)) t =
      layout { LH s u p h port with path := (pathAndQuery sp ty t).1, query := (pathAndQuery sp ty t).2 } := by
  have hpq : ∀ t', pathQA sp ty (layout (LH s u p h port)) t' =
      layout { LH s u p h port with path := (pathQ sp ty t').1, query := (pathQ sp ty t').2 } := fun t' =>
    pathQA_layout sp ty _ t' (LH_noAuthNoCred _ _ _ _ _) rfl rfl rfl rfl rfl (Or.inl rfl)
  unfold pathAndQueryA pathAndQuery
  cases sp with
  | true =>
    cases t with
    | nil => exact updateBasePathname_layout _ _ (LH_noAuthNoCred _ _ _ _ _) (by intro h; cases h)
    | cons c r => exact hpq _
  | false =>
    cases t with
    | nil => rfl
    | cons c r =>
      simp only [Bool.false_eq_true, ↓reduceIte]
      split
      · exact updateBaseSearch_layout _ _
      · exact hpq _

theorem finishA_eq (sp : Bool) (ty : Nat) (sch : Bytes) (cred : Cred) (frag : Option Bytes) (h : Bytes) (port : Option Nat) (t : Bytes) :
    some (finishA sp ty (layout (LH (sch ++ [0x3A]) cred.user cred.pass h port)) frag t) =
      aggOf (finish sp ty sch cred frag h port t) := by
  unfold finishA
  rw [pathAndQueryA_LH, withFragment_layout _ _ rfl]
  rfl

theorem afterAuthorityA_eq (idna : Idna) (sp : Bool) (ty : Nat) (sch : Bytes) (frag : Option Bytes) (v : Bytes) (cred : Cred)
    (hna : cred.atSeen = false → cred.user = [] ∧ cred.pass = []) :
    afterAuthorityA idna sp ty frag v (layout (LA (sch ++ [0x3A]) cred.atSeen cred.user cred.pass)) =
      aggOf (afterAuthority idna sp ty sch frag v cred) := by
  unfold afterAuthorityA afterAuthority
  simp only
  split
  · -- a ':' outside brackets
    rw [parseHostAgg_LA idna sp _ _ _ _ _ hna]
    cases parseHost idna sp (v.take (getHostDelimiterLocation sp v).1) with
    | none => rfl
    | some r =>
      simp only [Option.map_some, parsePortA_LH]
      cases parsePortTrailing sp (specialPortOf ty) (v.drop ((getHostDelimiterLocation sp v).1 + 1)) with
      | none => rfl
      | some pr => simp only [Option.map_some]; exact finishA_eq sp ty sch cred frag r.1 pr.1 pr.2
  · split
    · cases sp with
      | true => rfl
      | false =>
        simp only [Bool.false_eq_true, ↓reduceIte]
        rw [hostname_LA _ _ _ _ _ hna]
        exact finishA_eq false ty sch cred frag [] none _
    · rw [parseHostAgg_LA idna sp _ _ _ _ _ hna]
      cases parseHost idna sp (v.take (getHostDelimiterLocation sp v).1) with
      | none => rfl
      | some r => simp only [Option.map_some]; exact finishA_eq sp ty sch cred frag r.1 none _

theorem authLoop_cred (sp : Bool) (v : Bytes) (cred : Cred) : ∀ (f : Nat) (v0 : Bytes) (st : Cred),
    authLoop sp f v0 st = some (v, cred) → cred = st ∨ cred.atSeen = true := by
  intro f
  induction f with
  | zero => intro v0 st h; cases h
  | succ f ih =>
    intro v0 st h
    by_cases hat : ∃ rest, v0.drop (authDelim sp v0) = 0x40 :: rest
    · obtain ⟨rest, hdr⟩ := hat
      rw [authLoop_at sp f v0 st rest hdr] at h
      rcases ih _ _ h with e | e
      · right; rw [e]; exact absorb_atSeen _ _
      · exact Or.inr e
    · rw [authLoop_other sp f v0 st (fun rest hh => hat ⟨rest, hh⟩)] at h
      split at h
      · cases h
      · injection h with h; injection h with _ h2; exact Or.inl h2.symm

theorem authority_cred (sp : Bool) (text v : Bytes) (cred : Cred) (h : authority sp text = some (v, cred)) :
    cred.atSeen = false → cred.user = [] ∧ cred.pass = [] := by
  unfold authority at h
  split at h
  · injection h with h; injection h with _ h2; subst h2; intro _; exact ⟨rfl, rfl⟩
  · rcases authLoop_cred sp v cred _ _ _ h with e | e
    · rw [e]; intro _; exact ⟨rfl, rfl⟩
    · intro hfalse; rw [e] at hfalse; cases hfalse

theorem afterSlashesA_eq (idna : Idna) (sp : Bool) (ty : Nat) (sch : Bytes) (frag : Option Bytes) (text : Bytes) :
    afterSlashesA idna sp ty frag text (layout (LA (sch ++ [0x3A]) false [] [])) = aggOf (afterSlashes idna sp ty sch frag text) := by
  unfold afterSlashesA afterSlashes
  rw [authorityA_eq]
  cases hau : authority sp text with
  | none => rfl
  | some r => exact afterAuthorityA_eq idna sp ty sch frag r.1 r.2 (authority_cred sp text r.1 r.2 hau)

theorem layout_with_opq (l : L) (o : Bool) : ({ layout l with opq := o } : Agg) = layout { l with opq := o } := rfl

theorem updateBasePathname_opaque (l : L) (path : Bytes) (hna : NoAuthNoCred l) (hdd : l.dashdot = false) :
    updateBasePathname { layout l with opq := true } path = layout { l with opq := true, path := path } := by
  rw [layout_with_opq, updateBasePathname_layout _ path (show NoAuthNoCred { l with opq := true } from hna)
    (by intro h; rw [hdd] at h; cases h)]
  have : newDashDot { l with opq := true } path = l.dashdot := by
    unfold newDashDot; cases startsWithSlashSlash path <;> simp [hdd]
  rw [this]

theorem opaquePathA_eq (sch : Bytes) (frag : Option Bytes) (rest : Bytes) :
    some (opaquePathA (layout (LA (sch ++ [0x3A]) false [] [])) frag rest) = aggOf (opaquePath sch frag rest) := by
  unfold opaquePathA opaquePath
  simp only [aggOf]
  rw [updateBasePathname_opaque _ _ (fun _ => ⟨rfl, rfl⟩) rfl, layout_with_opq]
  congr 1
  split
  · rw [updateBaseSearch_layout]
    exact withFragment_layout _ _ rfl
  · exact withFragment_layout _ _ rfl

theorem afterSchemeNSA_auth (idna : Idna) (a : Agg) (frag : Option Bytes) (r : Bytes) :
    afterSchemeNSA idna a frag (0x2F :: 0x2F :: r) = afterSlashesA idna false 1 frag r a := rfl

theorem afterSchemeNSA_path (idna : Idna) (a : Agg) (frag : Option Bytes) (r : Bytes) (h : r.head? ≠ some 0x2F) :
    afterSchemeNSA idna a frag (0x2F :: r) = some (withFragment (pathQA false 1 a r) frag) := by
  unfold afterSchemeNSA
  split
  · rename_i heq
    injection heq with _ heq
    rw [heq] at h
    exact absurd rfl h
  · rename_i heq
    injection heq with _ heq
    subst heq
    rfl
  · rename_i h1 h2
    exact absurd rfl (h2 r)

theorem afterSchemeNSA_opaque (idna : Idna) (a : Agg) (frag : Option Bytes) (rest : Bytes) (h : rest.head? ≠ some 0x2F) :
    afterSchemeNSA idna a frag rest = some (opaquePathA a frag rest) := by
  unfold afterSchemeNSA
  split
  · exact absurd rfl h
  · exact absurd rfl h
  · rfl

theorem slashCases (P : Bytes → Prop) (hauth : ∀ r, P (0x2F :: 0x2F :: r)) (hpath : ∀ r, r.head? ≠ some 0x2F → P (0x2F :: r))
    (hopq : ∀ rest, rest.head? ≠ some 0x2F → P rest) (rest : Bytes) : P rest := by
  cases rest with
  | nil => exact hopq [] (by simp)
  | cons c r1 =>
    by_cases hc : c = 0x2F
    · subst hc
      cases r1 with
      | nil => exact hpath [] (by simp)
      | cons c2 r2 =>
        by_cases hc2 : c2 = 0x2F
        · subst hc2; exact hauth r2
        · exact hpath (c2 :: r2) (by simp; exact fun e => hc2 e)
    · exact hopq (c :: r1) (by simp; exact fun e => hc e)

theorem afterSchemeNSA_eq (idna : Idna) (sch : Bytes) (frag : Option Bytes) (rest : Bytes) :
    afterSchemeNSA idna (layout (LA (sch ++ [0x3A]) false [] [])) frag rest = aggOf (afterSchemeNS idna sch frag rest) := by
  refine slashCases (fun rest => afterSchemeNSA idna (layout (LA (sch ++ [0x3A]) false [] [])) frag rest = aggOf (afterSchemeNS idna sch frag rest))
    (fun r => afterSlashesA_eq idna false 1 sch frag r) (fun r h => ?_) (fun rest' h => ?_) rest
  · rw [afterSchemeNSA_path _ _ _ _ h, PS.afterSchemeNS_path _ _ _ _ h,
      pathQA_layout false 1 _ r (fun _ => ⟨rfl, rfl⟩) rfl rfl rfl rfl rfl (Or.inr h), withFragment_layout _ _ rfl]
    rfl
  · rw [afterSchemeNSA_opaque _ _ _ _ h, PS.afterSchemeNS_opaque _ _ _ _ h]
    exact opaquePathA_eq sch frag rest'

theorem hostParse_no_at (idna : Idna) (buf : Bytes) (opq : Bool) (h : Host) (hp : hostParse idna buf opq = some h) :
    h.serialize.headD 0 ≠ 0x40 := by
  unfold hostParse at hp
  split at hp
  · rename_i rest
    split at hp
    · cases hp
    · cases hq : ipv6Parse rest.dropLast with
      | none => simp [hq] at hp
      | some p => simp [hq] at hp; subst hp; simp [Host.serialize]
  · cases opq with
    | true =>
      simp only [↓reduceIte] at hp
      unfold opaqueHostParse at hp
      split at hp
      · cases hp
      · rename_i hforb
        injection hp with hp; subst hp
        simp only [Host.serialize]
        cases buf with
        | nil => simp [Spec.percentEncode]
        | cons c t =>
          have hc : c ≠ 0x40 := by
            intro e; subst e
            apply hforb
            simp [isForbiddenHost]
          simp only [Spec.percentEncode, List.flatMap_cons]
          split
          · simp [pctByte]
          · simp [hc]
    | false =>
      simp only [Bool.false_eq_true, ↓reduceIte] at hp
      split at hp
      · cases hp
      · rename_i ascii _
        split at hp
        · cases hp
        · rename_i hforb
          split at hp
          · cases hq : ipv4Parse ascii with
            | none => simp [hq] at hp
            | some a =>
              simp [hq] at hp; subst hp
              simp only [Host.serialize]
              have hdd := allDD_serialize a
              cases hs : ipv4Serialize a with
              | nil => simp
              | cons c t =>
                have := hdd c (by rw [hs]; simp)
                simp only [List.headD_cons]
                rcases this with h1 | h1
                · intro e; subst e; revert h1; decide
                · intro e; rw [e] at h1; revert h1; decide
          · injection hp with hp; subst hp
            simp only [Host.serialize]
            cases ascii with
            | nil => simp
            | cons c t =>
              simp only [List.headD_cons]
              intro e; subst e
              apply hforb
              simp [isForbiddenDomain, isForbiddenHost]

theorem host_no_at (idna : Idna) (buf : Bytes) (h : Host) (hp : hostParse idna buf false = some h) : h.serialize.headD 0 ≠ 0x40 :=
  hostParse_no_at idna buf false h hp

/-- where `get_hostname()` and `get_host()` start to read: behind the '@' when there is one -/
theorem hostStart_layout (l : L) (hh : l.user = [] → l.pass = [] → l.host.headD 0 ≠ 0x40) :
    (if ((layout l).he > (layout l).hs && at_ (layout l).buf (layout l).hs == 0x40) = true then (layout l).hs + 1 else (layout l).hs) =
      (layout l).hs + (atS l.user l.pass).length := by
  have hhe : (layout l).he = (layout l).hs + (atS l.user l.pass).length + l.host.length := rfl
  rw [(cut_hs l).at_, hhe]
  by_cases hc : l.user = [] ∧ l.pass = []
  · rw [atS_of_empty hc.1 hc.2]
    cases hhost : l.host with
    | nil => simp
    | cons c t =>
      have hne : c ≠ 0x40 := by simpa [hhost] using hh hc.1 hc.2
      simp [tailS, hhost, hne]
  · rw [atS_of_cred hc]
    simp
    omega

theorem getHostname_layout (l : L) (hh : l.user = [] → l.pass = [] → l.host.headD 0 ≠ 0x40) : getHostname (layout l) = l.host := by
  unfold getHostname
  simp only
  rw [hostStart_layout l hh]
  exact (cut_host l).slice rfl

theorem getHost_layout (l : L) (hh : l.user = [] → l.pass = [] → l.host.headD 0 ≠ 0x40) (hd : l.host ≠ [] → l.dashdot = false) :
    getHost (layout l) = if l.host = [] then [] else l.host ++ portS l.port := by
  unfold getHost
  simp only
  rw [hostStart_layout l hh]
  have hhe : (layout l).he = (layout l).hs + (atS l.user l.pass).length + l.host.length := rfl
  by_cases hemp : l.host = []
  · simp [hhe, hemp]
  · have : 0 < l.host.length := List.length_pos_iff.mpr hemp
    have hne : ((layout l).hs + (atS l.user l.pass).length == (layout l).he) = false := by rw [hhe]; simp; omega
    simp only [hne, hemp, Bool.false_eq_true, ↓reduceIte]
    -- no "/." guard between port and path: host and port end where the path starts
    have c : Cut (layout l).buf ((layout l).hs + (atS l.user l.pass).length) _ ((l.host ++ portS l.port) ++ (l.path ++ (queryS l.query ++ fragS l.frag))) :=
      ⟨by rw [(cut_host l).buf]; simp [tailS, hd hemp, ddS], (cut_host l).idx⟩
    exact c.slice (by layout_arith [hd hemp, ddS_false])
theorem getHostname_LH (s h : Bytes) (hh : h.headD 0 ≠ 0x40) : getHostname (layout (LH s [] [] h none)) = h :=
  getHostname_layout _ (fun _ _ => hh)

theorem hostname_LH (s u p h0 h : Bytes) : updateBaseHostname (layout (LH s u p h0 none)) h = layout (LH s u p h none) := by
  rw [updateBaseHostname_layout _ h (LH_noAuthNoCred _ _ _ _ _)]
  rfl

theorem filePathA_eq (frag : Option Bytes) (t : Bytes) :
    some (filePathA (layout (LH (bFile ++ [0x3A]) [] [] [] none)) frag t) = aggOf (filePath frag t) := by
  unfold filePathA
  rw [pathQA_layout true 6 _ t (LH_noAuthNoCred _ _ _ _ _) rfl rfl rfl rfl rfl (Or.inl rfl), withFragment_layout _ _ rfl]
  rfl

theorem fileHostA_eq (idna : Idna) (frag : Option Bytes) (t : Bytes) (hid : ∀ d, HP.IdnaAt idna d) :
    fileHostA idna (layout (LH (bFile ++ [0x3A]) [] [] [] none)) frag t = aggOf (ParseSpecial.fileHost idna frag t) := by
  unfold fileHostA ParseSpecial.fileHost
  simp only
  generalize hbuf : t.takeWhile (fun c => !(c == 0x2F || c == 0x5C || c == 0x3F)) = buffer
  split
  · exact filePathA_eq frag t
  · split
    · rw [hostname_LH]
      exact finishA_eq true 6 bFile {} frag [] none t
    · rename_i hemp
      have hne : buffer ≠ [] := by simpa using hemp
      unfold parseHostAgg
      rw [HP.parseHostA_eq]
      have hph := HP.parseHost_eq idna true buffer hne (hid _)
      cases hr : parseHost idna true buffer with
      | none => rfl
      | some r =>
        simp only [Option.map_some, hostname_LH]
        -- the host the parser hands out does not start with '@', so the getter returns it
        rw [hr] at hph
        have hhead : r.1.headD 0 ≠ 0x40 := by
          cases hsp : hostParse idna buffer (!true) with
          | none => rw [hsp] at hph; cases hph
          | some host =>
            rw [hsp] at hph
            simp only [Option.map_some, Option.some.injEq] at hph
            rw [hph]
            exact host_no_at idna buffer host hsp
        rw [getHostname_LH _ _ hhead]
        split
        · exact finishA_eq true 6 bFile {} frag [] none _
        · exact finishA_eq true 6 bFile {} frag r.1 none _

/-- FILE starts with `set_protocol_as_file` and `update_base_hostname("")` -/
theorem fileStart_empty : updateBaseHostname (setSchemeWithColon emptyAgg (bFile ++ [0x3A])) [] = layout (LH (bFile ++ [0x3A]) [] [] [] none) := by
  rw [setSchemeWithColon_empty]
  exact hostname_LA (bFile ++ [0x3A]) false [] [] [] (fun _ => ⟨rfl, rfl⟩)

theorem fileStart_scheme :
    updateBaseHostname (setSchemeWithColon (layout (LA (bFile ++ [0x3A]) false [] [])) (bFile ++ [0x3A])) [] =
      layout (LH (bFile ++ [0x3A]) [] [] [] none) := by
  rw [setSchemeWithColon_layout _ _ (by simp [LA, bFile])]
  exact hostname_LA (bFile ++ [0x3A]) false [] [] [] (fun _ => ⟨rfl, rfl⟩)

theorem afterSchemeFileA_eq (idna : Idna) (frag : Option Bytes) (rest : Bytes) (hid : ∀ d, HP.IdnaAt idna d) :
    afterSchemeFileA idna (layout (LA (bFile ++ [0x3A]) false [] [])) frag rest = aggOf (afterSchemeFile idna frag rest) := by
  unfold afterSchemeFileA afterSchemeFile
  simp only [fileStart_scheme]
  cases rest with
  | nil => exact filePathA_eq frag []
  | cons c r1 =>
    simp only
    split
    · cases r1 with
      | nil => exact filePathA_eq frag []
      | cons c2 r2 =>
        simp only
        split
        · exact fileHostA_eq idna frag r2 hid
        · exact filePathA_eq frag _
    · exact filePathA_eq frag _

/-- Both instantiations of `parse_url_impl` stay in step: the buffer and offsets the `url_aggregator` instantiation
    builds are the layout of the fields the `ada::url` instantiation computes, for every input -/
theorem machineA_eq (idna : Idna) (input : Bytes) (hid : ∀ d, HP.IdnaAt idna d) :
    machineA idna input = aggOf (machine idna input) := by
  unfold machineA machine
  cases prep input with
  | mk d frag =>
    simp only
    cases schemeScan d with
    | none => rfl
    | some nr =>
      obtain ⟨name, rest⟩ := nr
      simp only [parseSchemeA_eq]
      rw [PS.parseSchemeNoOverride_spec]
      simp only
      split
      · rename_i h6
        rw [file_of_type _ h6]
        exact afterSchemeFileA_eq idna frag rest hid
      · split
        · exact afterSchemeNSA_eq idna _ frag rest
        · exact afterSlashesA_eq idna true _ _ frag _

theorem parseNoBaseA_eq (idna : Idna) (input : Bytes) (hid : ∀ d, HP.IdnaAt idna d) :
    parseNoBaseA idna input = aggOf (parseNoBase idna input) := by
  unfold parseNoBaseA parseNoBase
  split
  · exact machineA_eq idna input hid
  · cases SimpleAbs.trySimple input with
    | none => exact machineA_eq idna input hid
    | some r => rfl

end AdaVerif.Lemmas.PA
