import AdaVerif.Lemmas.Ipv4
import AdaVerif.Lemmas.Ipv6
import AdaVerif.Lemmas.Ascii
import AdaVerif.Lemmas.SpecScans
import AdaVerif.Lemmas.ListFacts
/-
Hosts are fixed points of serialise-then-parse: an IPv4 address, an IPv6 address and an opaque host
re-parse to themselves (for every address / every encoded opaque host).  Domains are in `FP.hostOk_of_canon`: they
do when domain-to-ASCII is stable on them (the IDNA part is a parameter of the Spec).
-/
namespace AdaVerif.Lemmas
open AdaVerif AdaVerif.Spec

def AllDD (s : Bytes) : Prop := ∀ b ∈ s, isAsciiDigit b = true ∨ b = 0x2E

structure DDByte (b : UInt8) : Prop where
  notPct : b ≠ 0x25
  ascii : b.toNat < 0x80
  lower : toLowerByte b = b
  allowed : isForbiddenDomain b = false
  notOpen : b ≠ 0x5B
  notx : b ≠ 0x78
  notX : b ≠ 0x58

theorem dd_facts (b : UInt8) (h : isAsciiDigit b = true ∨ b = 0x2E) : DDByte b := by
  have t : ∀ b : UInt8, (isAsciiDigit b = true ∨ b = 0x2E) →
      b ≠ 0x25 ∧ b.toNat < 0x80 ∧ toLowerByte b = b ∧ isForbiddenDomain b = false ∧ b ≠ 0x5B ∧ b ≠ 0x78 ∧ b ≠ 0x58 := by
    apply forall_uint8_of_fin; decide +kernel
  obtain ⟨h1, h2, h3, h4, h5, h6, h7⟩ := t b h
  exact ⟨h1, h2, h3, h4, h5, h6, h7⟩

theorem percentDecode_no_pct : ∀ (s : Bytes), (∀ b ∈ s, b ≠ 0x25) → percentDecode s = s
  | [], _ => rfl
  | [_], _ => rfl
  | [_, _], _ => rfl
  | a :: b :: c :: rest, h => by
    have ha : a ≠ 0x25 := h a (by simp)
    have : (a == 0x25) = false := by simpa using ha
    simp only [percentDecode, this, Bool.false_and, Bool.false_eq_true, ↓reduceIte]
    rw [percentDecode_no_pct (b :: c :: rest) (fun x hx => h x (by simp [hx]))]

theorem allDD_serialize (a : Nat) : AllDD (ipv4Serialize a) := by
  intro b hb
  unfold ipv4Serialize at hb
  have d1 := part_digits (a / 16777216 % 256) (Nat.mod_lt _ (by decide))
  have d2 := part_digits (a / 65536 % 256) (Nat.mod_lt _ (by decide))
  have d3 := part_digits (a / 256 % 256) (Nat.mod_lt _ (by decide))
  have d4 := part_digits (a % 256) (Nat.mod_lt _ (by decide))
  simp only [List.all_eq_true] at d1 d2 d3 d4
  simp only [List.mem_append, List.mem_singleton] at hb
  rcases hb with ((((((h | h) | h) | h) | h) | h) | h)
  · exact Or.inl (d1 b h)
  · exact Or.inr h
  · exact Or.inl (d2 b h)
  · exact Or.inr h
  · exact Or.inl (d3 b h)
  · exact Or.inr h
  · exact Or.inl (d4 b h)

theorem domainToAscii_ascii (idna : Idna) (d : Bytes) (hasc : isAsciiBytes d = true)
    (hxn : (splitOn 0x2E d).any startsWithXn = false) (hne : d ≠ []) :
    domainToAscii idna d = some (d.map toLowerByte) := by
  unfold domainToAscii
  simp only [hasc, hxn, Bool.not_false, Bool.and_self, ↓reduceIte]
  cases hm : d.map toLowerByte with
  | nil => exact absurd (List.map_eq_nil_iff.mp hm) hne
  | cons => rfl

theorem domainToAscii_dd (idna : Idna) (s : Bytes) (h : AllDD s) (hne : s ≠ []) : domainToAscii idna s = some s := by
  have hasc : isAsciiBytes s = true := by
    simp only [isAsciiBytes, List.all_eq_true, decide_eq_true_eq]
    intro b hb; exact (dd_facts b (h b hb)).ascii
  have hxn : (splitOn 0x2E s).any startsWithXn = false := by
    simp only [List.any_eq_false]
    intro l hl
    cases l with
    | nil => simp [startsWithXn]
    | cons a t =>
      have ha := dd_facts a (h a (splitOn_mem _ s _ hl a (by simp)))
      cases t with
      | nil => simp [startsWithXn]
      | cons b t2 => cases t2 with
        | nil => simp [startsWithXn]
        | cons c t3 => cases t3 with
          | nil => simp [startsWithXn]
          | cons d t4 =>
            have h1 : (a == 0x78) = false := by simpa using ha.notx
            have h2 : (a == 0x58) = false := by simpa using ha.notX
            simp [startsWithXn, h1, h2]
  rw [domainToAscii_ascii idna s hasc hxn hne, map_eq_self _ s (fun b hb => (dd_facts b (h b hb)).lower)]

theorem ipv4_host_fixed (idna : Idna) (a : Nat) (ha : a < 4294967296) :
    hostParse idna (Host.serialize (.ipv4 a)) false = some (.ipv4 a) := by
  have hdd := allDD_serialize a
  have hne : ipv4Serialize a ≠ [] := by
    have := part_ne_nil (a / 16777216 % 256) (Nat.mod_lt _ (by decide))
    unfold ipv4Serialize
    intro h; simp at h
  obtain ⟨d, t, hs⟩ : ∃ d t, ipv4Serialize a = d :: t := by
    cases h : ipv4Serialize a with
    | nil => exact absurd h hne
    | cons d t => exact ⟨d, t, rfl⟩
  have hd5b : d ≠ 0x5B := (dd_facts d (hdd d (by rw [hs]; simp))).notOpen
  have hpd : percentDecode (ipv4Serialize a) = ipv4Serialize a :=
    percentDecode_no_pct _ (fun b hb => (dd_facts b (hdd b hb)).notPct)
  have hforb : (ipv4Serialize a).any isForbiddenDomain = false := by
    simp only [List.any_eq_false]; intro b hb; simp [(dd_facts b (hdd b hb)).allowed]
  simp only [Host.serialize]
  unfold hostParse
  rw [hs]
  split
  · rename_i heq; injection heq with h1 _; exact absurd h1 hd5b
  · rw [← hs]
    simp only [Bool.false_eq_true, ↓reduceIte, hpd, domainToAscii_dd idna _ hdd hne, hforb, ipv4_endsInANumber a,
      ipv4_roundtrip a ha, Option.map_some]

theorem ipv6_host_fixed (idna : Idna) (p : List Nat) (hl : p.length = 8) (hb : ∀ x ∈ p, x < 65536) (opq : Bool) :
    hostParse idna (Host.serialize (.ipv6 p)) opq = some (.ipv6 p) := by
  simp [Host.serialize, hostParse, V6.ipv6_roundtrip p hl hb]

theorem opaque_host_fixed (idna : Idna) (o : Bytes) (hne : o ≠ []) (h5b : o.head? ≠ some 0x5B)
    (hforb : (percentEncode inC0 o).any isForbiddenHost = false) :
    hostParse idna (Host.serialize (.opaqueHost (percentEncode inC0 o))) true = some (.opaqueHost (percentEncode inC0 o)) := by
  have hidem : percentEncode inC0 (percentEncode inC0 o) = percentEncode inC0 o :=
    percentEncode_idem inC0 (fun b hb => (HC.pctb_facts b hb).1) o
  simp only [Host.serialize]
  unfold hostParse
  split
  · rename_i rest heq
    -- an encoded host starting with '[' came from a host starting with '[' ('[' is not in the C0 set)
    exfalso
    cases o with
    | nil => exact hne rfl
    | cons c t =>
      have hc : c ≠ 0x5B := by simpa using h5b
      simp only [percentEncode, List.flatMap_cons] at heq
      split at heq
      · simp [pctByte] at heq
      · simp at heq; exact hc heq.1
  · simp [opaqueHostParse, hforb, hidem]

end AdaVerif.Lemmas
