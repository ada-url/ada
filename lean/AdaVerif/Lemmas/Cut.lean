import AdaVerif.Spec.Url
/-
`Spec.cutAt c` characterised: `cutAt c s = (a, o)` exactly when `s` is `a`, without `c`, followed by `sfx c o`.  The C++ finds the
same cut as `takeWhile (· != c)` with a length test and a `drop`; `takeWhile_sfx` and `rest_sfx` read those off the same form.
-/
namespace AdaVerif.Lemmas.Cut
open AdaVerif AdaVerif.Spec

/-- `c :: r` or nothing: what `cutAt c` leaves out between its two results -/
def sfx (c : UInt8) : Option Bytes → Bytes
  | some r => c :: r
  | none => []

theorem head_ne {c x : UInt8} {r : Bytes} (h : x ∉ c :: r) : (c == x) = false := by
  simpa using fun e : c = x => h (by simp [e])

theorem cutAt_sfx (c : UInt8) (a : Bytes) (o : Option Bytes) (h : c ∉ a) : cutAt c (a ++ sfx c o) = (a, o) := by
  induction a with
  | nil => cases o <;> simp [cutAt, sfx]
  | cons x t ih =>
    have hx : (x == c) = false := by simpa using fun e : x = c => h (by simp [e])
    simp only [List.cons_append, cutAt, hx, Bool.false_eq_true, ↓reduceIte, ih (fun hm => h (List.mem_cons_of_mem _ hm))]

theorem cutAt_split (c : UInt8) (s : Bytes) : s = (cutAt c s).1 ++ sfx c (cutAt c s).2 ∧ c ∉ (cutAt c s).1 := by
  induction s with
  | nil => simp [cutAt, sfx]
  | cons x t ih =>
    by_cases hx : x = c
    · simp [cutAt, hx, sfx]
    · have hx' : (x == c) = false := by simpa using hx
      simp only [cutAt, hx', Bool.false_eq_true, ↓reduceIte, List.cons_append, List.mem_cons, not_or]
      exact ⟨by rw [← ih.1], fun e => hx e.symm, ih.2⟩

theorem takeWhile_sfx (c : UInt8) (a : Bytes) (o : Option Bytes) (h : c ∉ a) : (a ++ sfx c o).takeWhile (· != c) = a := by
  induction a with
  | nil => cases o <;> simp [sfx]
  | cons x t ih =>
    have hx : (x != c) = true := by simpa using fun e : x = c => h (by simp [e])
    simp only [List.cons_append, List.takeWhile_cons, hx, ↓reduceIte, ih (fun hm => h (List.mem_cons_of_mem _ hm))]

/-- the length test and the `drop` by which the C++ takes what is behind the separator -/
theorem rest_sfx (c : UInt8) (a : Bytes) (o : Option Bytes) :
    (if a.length < (a ++ sfx c o).length then some ((a ++ sfx c o).drop (a.length + 1)) else none) = o := by
  cases o with
  | none => simp [sfx]
  | some r =>
    have hd : (a ++ c :: r).drop (a.length + 1) = r := by
      rw [← List.drop_drop, List.drop_left]; rfl
    simp [sfx, hd]

theorem forall_mem_sfx {P : UInt8 → Prop} {c : UInt8} (o : Option Bytes) (h0 : P c) (h : ∀ x, o = some x → ∀ b ∈ x, P b) :
    ∀ b ∈ sfx c o, P b := by
  cases o with
  | none => nofun
  | some x => exact List.forall_mem_cons.mpr ⟨h0, h x rfl⟩

end AdaVerif.Lemmas.Cut
