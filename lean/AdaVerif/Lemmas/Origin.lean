import AdaVerif.Lemmas.ParseAggBase
import AdaVerif.Lemmas.ParseValid
/-
`url_aggregator::get_origin` reads, through its getters, what `url::get_origin` reads from its fields - and a blob URL's
origin is decided by each type's own parser, which agree (`PA.parseNoBaseA_eq`).
-/
namespace AdaVerif.Lemmas.OR
open AdaVerif AdaVerif.Spec AdaVerif.Lemmas AdaVerif.Lemmas.AggL AdaVerif.Lemmas.PA AdaVerif.Lemmas.PAB AdaVerif.Model AdaVerif.Model.Agg
  AdaVerif.Model.ParseSpecial AdaVerif.Model.ParseAgg AdaVerif.Model.UrlRec AdaVerif.Model.HostParse

theorem getHost_toL_gen (r : Rec) (hb : BaseRec r) : getHost (layout (toL r)) = getHostR r :=
  getHost_toL r hb

/-- `url_aggregator::get_origin()` on the layout of an `ada::url` object is `url::get_origin()` -/
theorem getOriginA_eq (idna : Idna) (r : Rec) (hb : BaseRec r) (hid : ∀ d, HP.IdnaAt idna d)
    (hclean : r.scheme = bBlob → AdaVerif.Lemmas.BR.bracketOk (schemeSpecial r.path) (hostStart r.path) = true) :
    getOriginA idna (layout (toL r)) = getOriginR idna r := by
  unfold getOriginA getOriginR
  rw [getProtocol_toL, Props.C07.getPathname_layout, getHost_toL_gen r hb]
  have hdl : (r.scheme ++ [0x3A]).dropLast = r.scheme := by simp
  have hpath : (toL r).path = r.path := rfl
  simp only [hdl, hpath]
  rw [hb.special]
  by_cases hsp : (getSchemeType r.scheme != 1) = true
  · simp only [hsp, ↓reduceIte]
  · simp only [hsp, Bool.false_eq_true, ↓reduceIte]
    have hbl : (r.scheme ++ [0x3A] == bBlob ++ [0x3A]) = (r.scheme == bBlob) := by simp
    rw [hbl]
    by_cases hblob : (r.scheme == bBlob && !r.path.isEmpty) = true
    · simp only [hblob, ↓reduceIte]
      have hsb : r.scheme = bBlob := by
        simp only [Bool.and_eq_true] at hblob; simpa using hblob.1
      rw [PA.parseNoBaseA_eq idna r.path hid, PS.parseNoBase_spec idna r.path hid (hclean hsb)]
      cases hp : parse idna r.path none with
      | none => rfl
      | some up =>
        simp only [PS.outOf, PA.aggOf]
        rw [getProtocol_toL, getHost_toL_gen _ (parsed_baseRec idna r.path up hp)]
        have hdl2 : ((UR.recOf up).scheme ++ [0x3A]).dropLast = (UR.recOf up).scheme := by simp
        simp only [hdl2]
    · simp only [hblob, Bool.false_eq_true, ↓reduceIte]

end AdaVerif.Lemmas.OR
