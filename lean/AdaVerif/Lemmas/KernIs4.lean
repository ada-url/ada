import AdaVerif.Lemmas.Kern4
import AdaVerif.Lemmas.PathString
/-
C10: `checkers::is_ipv4` is the Standard's ends-in-a-number checker on non-empty texts without upper-case letters
(the precondition stated in the source).
-/
namespace AdaVerif.Lemmas.K4
open AdaVerif AdaVerif.Spec AdaVerif.Lemmas AdaVerif.Model.HostKernels AdaVerif.Model.FastScan

theorem afterLastDot_snoc (pre L : Bytes) (hL : (0x2E : UInt8) ∉ L) : afterLastDot (pre ++ 0x2E :: L) = L := by
  unfold afterLastDot Model.PathPrepared.rfind
  rw [PP.rfind_go_eq, lastIndexOf_go_last _ _ _ _ _ hL]
  simp only [Nat.zero_add]
  rw [show pre ++ 0x2E :: L = (pre ++ [0x2E]) ++ L by simp]
  exact List.drop_left' (by simp)

theorem afterLastDot_nodot (L : Bytes) (hL : (0x2E : UInt8) ∉ L) : afterLastDot L = L := by
  unfold afterLastDot Model.PathPrepared.rfind
  rw [PP.rfind_go_eq, lastIndexOf_go_none _ _ _ _ hL]

/-- the Standard's verdict on the label it examines -/
def decision (L : Bytes) : Bool := (!L.isEmpty && L.all isAsciiDigit) || (ipv4Number L).isSome

/-- the code's verdict on the text after the last dot: the body of `isIpv4` from `possible` on, with the label and the
    last byte named (`isIpv4_eq` ties the two by unfolding) -/
def cppDecision (L : Bytes) (last : UInt8) : Bool :=
  let possible := isDigit last || (decide (0x61 ≤ last.toNat) && decide (last.toNat ≤ 0x66)) || last == 0x78
  if !possible then false else
  if L.all isDigit then true
  else if L.length == 1 then false
  else hexTail L

theorem lowhex_facts : ∀ b : UInt8, isAsciiUpper b = false →
    (isRadixDigit 16 b = isLowerHex b) ∧
    (isLowerHex b = true → (isDigit b || (decide (0x61 ≤ b.toNat) && decide (b.toNat ≤ 0x66)) || b == 0x78) = true) := by
  apply forall_uint8_of_fin; decide +kernel

theorem label_decision (L : Bytes) (hne : L ≠ []) (hlow : ∀ b ∈ L, isAsciiUpper b = false) (last : UInt8)
    (hl : L.getLast? = some last) : cppDecision L last = decision L := by
  have hlastlow := hlow last (List.mem_of_getLast? hl)
  have hemp : L.isEmpty = false := FS.isEmpty_false_of_ne hne
  unfold cppDecision decision
  simp only [hemp, Bool.not_false, Bool.true_and]
  have hdig : L.all isAsciiDigit = L.all isDigit := rfl
  by_cases hall : L.all isDigit = true
  · simp [all_getLast? L hall last hl, hall, hdig]
  · have hall' : L.all isDigit = false := by simpa using hall
    rw [hdig, hall']
    simp only [Bool.false_eq_true, ↓reduceIte, Bool.false_or]
    match L, hne, hlow, hl, hall' with
    | [c], _, _, hl, hall' =>
      have hc : isDigit c = false := by simpa using hall'
      rw [Radix.ipv4Number_single, show isAsciiDigit c = false from hc]
      simp
    | c0 :: c1 :: rest, _, hlow, hl, hall' =>
      have hlen : ((c0 :: c1 :: rest).length == 1) = false := by simp
      simp only [hlen, Bool.false_eq_true, ↓reduceIte]
      by_cases h0 : c0 = 0x30
      · subst h0
        by_cases h1 : c1 = 0x78
        · subst h1
          rw [Radix.ipv4Number_hex 0x78 rest (by decide)]
          cases rest with
          | nil =>
            have : last = 0x78 := by simpa using hl.symm
            subst this
            simp [hexTail]
          | cons d t' =>
            have hlr : (d :: t').getLast? = some last := by simpa [List.getLast?_cons_cons] using hl
            have h16 : (d :: t').all (isRadixDigit 16) = (d :: t').all isLowerHex :=
              all_congr_mem _ _ _ (fun b hb => (lowhex_facts b (hlow b (List.mem_cons_of_mem _ (List.mem_cons_of_mem _ hb)))).1)
            simp only [List.isEmpty_cons, Bool.false_eq_true, ↓reduceIte, h16]
            by_cases hh : (d :: t').all isLowerHex = true
            · have hp := (lowhex_facts last hlastlow).2 (all_getLast? _ hh last hlr)
              simp [hp, hh, hexTail]
            · have hh' : (d :: t').all isLowerHex = false := by simpa using hh
              simp [hh', hexTail]
        · -- "0" then something else: octal would be all digits
          have hx : c1 ≠ 0x58 := by intro e; subst e; exact absurd (hlow 0x58 (by simp)) (by decide)
          have hnx : (c1 == 0x78 || c1 == 0x58) = false := by simp [h1, hx]
          have hsp := Radix.ipv4Number_oct c1 rest hnx
          have hoct : (c1 :: rest).all (isRadixDigit 8) = false := by
            cases hq : (c1 :: rest).all (isRadixDigit 8) with
            | false => rfl
            | true =>
              exfalso
              have : (0x30 :: c1 :: rest).all isDigit = true := by
                simp only [List.all_cons, List.all_eq_true] at hq ⊢
                simp only [Bool.and_eq_true, List.all_eq_true] at hq
                refine Bool.and_eq_true_iff.mpr ⟨by decide, Bool.and_eq_true_iff.mpr ⟨?_, ?_⟩⟩
                · exact oct_isDigit c1 hq.1
                · simp only [List.all_eq_true]
                  intro b hb
                  exact oct_isDigit b (hq.2 b hb)
              rw [this] at hall'; cases hall'
          rw [hsp, hoct]
          have hm : hexTail ((0x30 : UInt8) :: c1 :: rest) = false := by
            unfold hexTail
            split
            · rename_i heq; injection heq with _ h2; injection h2 with h3 _; exact absurd h3 h1
            · rfl
          simp [hm]
      · have hsp := Radix.ipv4Number_decimal c0 c1 rest h0
        have h10 : (c0 :: c1 :: rest).all (isRadixDigit 10) = false := hall'
        rw [hsp, h10]
        have hm : hexTail (c0 :: c1 :: rest) = false := by
          unfold hexTail
          split
          · rename_i heq; injection heq with e _; exact absurd e h0
          · rfl
        simp [hm]

theorem decision_nil : decision [] = false := by simp [decision, ipv4Number]

theorem endsInANumber_view (s view : Bytes) (hs : s ≠ [])
    (hv : view = if s.getLast? == some 0x2E then s.dropLast else s) :
    endsInANumber s = (if view.isEmpty then false else decision (((splitOn 0x2E view).getLast?).getD [])) := by
  unfold endsInANumber
  simp only
  by_cases hdot : s.getLast? = some 0x2E
  · have hpos := length_splitOn_pos 0x2E s.dropLast
    have hv' : view = s.dropLast := by simp [hv, hdot]
    subst hv'
    have hlen : ¬ (splitOn 0x2E s.dropLast).length = 0 := by omega
    simp only [splitOn_of_dot s hdot, List.getLast?_concat, beq_self_eq_true, ↓reduceIte, List.length_append, List.length_cons,
      List.length_nil, Nat.zero_add, Nat.add_eq_right, hlen, beq_iff_eq, List.dropLast_concat]
    by_cases hve : s.dropLast = []
    · simp [hve, splitOn, ipv4Number]
    · obtain ⟨L, hq⟩ : ∃ L, (splitOn 0x2E s.dropLast).getLast? = some L := ⟨_, List.getLast?_eq_some_getLast (FS.splitOn_ne_nil _ _)⟩
      simp only [hq, Option.getD_some, decision, FS.isEmpty_false_of_ne hve, Bool.false_eq_true, ↓reduceIte]
      cases (!L.isEmpty && L.all isAsciiDigit) <;> rfl
  · have hv' : view = s := by simp [hv, hdot]
    subst hv'
    have hne := splitOn_last_ne view hs hdot
    have hb : ((splitOn 0x2E view).getLast? == some []) = false := by simpa using hne
    obtain ⟨L, hq⟩ : ∃ L, (splitOn 0x2E view).getLast? = some L := ⟨_, List.getLast?_eq_some_getLast (FS.splitOn_ne_nil _ _)⟩
    simp only [hb, Bool.false_eq_true, ↓reduceIte]
    simp only [hq, Option.getD_some, decision, FS.isEmpty_false_of_ne hs, Bool.false_eq_true, ↓reduceIte]
    cases (!L.isEmpty && L.all isAsciiDigit) <;> rfl

theorem isIpv4_eq (s : Bytes) (hs : s ≠ []) (hlow : ∀ b ∈ s, isAsciiUpper b = false) : isIpv4 s = endsInANumber s := by
  rw [endsInANumber_view s _ hs rfl]
  unfold isIpv4
  simp only
  generalize hv : (if s.getLast? == some 0x2E then s.dropLast else s) = view
  have hsub : ∀ b ∈ view, b ∈ s := by
    intro b hb
    rw [← hv] at hb
    split at hb
    · exact List.dropLast_subset _ hb
    · exact hb
  by_cases hve : view = []
  · subst hve; rfl
  have hemp : view.isEmpty = false := FS.isEmpty_false_of_ne hve
  simp only [hemp, Bool.false_eq_true, ↓reduceIte]
  obtain ⟨pre, L, hL, hlastL, hsplit⟩ := last_label_split view
  rw [hlastL]
  simp only [Option.getD_some]
  have hafter : afterLastDot view = L := by
    rcases hsplit with e | e
    · rw [e]; exact afterLastDot_nodot L hL
    · rw [e]; exact afterLastDot_snoc pre L hL
  rw [hafter]
  obtain ⟨last, hlast⟩ : ∃ last, view.getLast? = some last := by
    cases hq : view.getLast? with
    | none => simp at hq; exact absurd hq hve
    | some z => exact ⟨z, rfl⟩
  rw [hlast]
  simp only [Option.getD_some]
  by_cases hLe : L = []
  · -- the text ends with a dot: the last label is empty
    subst hLe
    have hl46 : last = 0x2E := by
      rcases hsplit with e | e
      · exact absurd e hve
      · rw [e] at hlast; simpa using hlast.symm
    subst hl46
    rw [decision_nil]
    decide
  · have hLlast : L.getLast? = some last := by
      rcases hsplit with e | e
      · rw [← e]; exact hlast
      · rw [e, List.getLast?_append] at hlast
        cases hq : (0x2E :: L).getLast? with
        | none => simp at hq
        | some z =>
          rw [hq] at hlast
          simp only [Option.some_or, Option.some.injEq] at hlast
          subst hlast
          cases L with
          | nil => exact absurd rfl hLe
          | cons a t => simpa [List.getLast?_cons_cons] using hq
    have hLlow : ∀ b ∈ L, isAsciiUpper b = false := by
      intro b hb
      apply hlow b (hsub b _)
      rcases hsplit with e | e
      · rw [e]; exact hb
      · rw [e]; simp [hb]
    have := label_decision L hLe hLlow last hLlast
    unfold cppDecision at this
    exact this

end AdaVerif.Lemmas.K4
