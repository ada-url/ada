import AdaVerif.Model.Punycode
import AdaVerif.Lemmas.Punycode
import AdaVerif.Lemmas.SpecScans
/-
Punycode round trip: decoding what `utf32_to_punycode` wrote gives the code points back, for every list of code points.
The statement is first proved for the decoder without its int32 guards (pure arithmetic, `decodeU`); the guarded decoder
only ever rejects (`guards_only_reject`), so whenever it answers on an encoder output it answers the original.

The encoder handles the values `m` in increasing order and scans the input once for each; the decoder inserts one code
point per delta.  `Inv` relates the two in the middle of a scan (`scan_sim`); between two scans the pending delta is
raised to the next value (`loop_sim`).  The decoder's fuel is the length of its input plus one throughout, one unit per
digit inside a delta.
-/
namespace AdaVerif.Lemmas.Puny
open AdaVerif AdaVerif.Model.Puny

theorem encodeInt_fuel (bias : Nat) (f : Nat) : ∀ (q k : Nat) (e : Nat), q < 10 ^ f → f ≤ e →
    encodeInt bias (e + 1) q k = encodeInt bias (f + 1) q k := by
  induction f with
  | zero =>
    intro q k e hq _
    have hlt : q < threshold k bias := by
      have := (threshold_range k bias).1
      omega
    rw [encodeInt_succ bias e, encodeInt_succ bias 0, if_pos hlt, if_pos hlt]
  | succ f ih =>
    intro q k e hq he
    obtain ⟨e, rfl⟩ : ∃ e', e = e' + 1 := ⟨e - 1, by omega⟩
    rw [encodeInt_succ bias (e + 1), encodeInt_succ bias (f + 1),
      ih _ _ e (rest_lt _ q f (threshold_range k bias).2 hq) (by omega)]

theorem encodeInt_length_pos (bias f q k : Nat) : 0 < (encodeInt bias (f + 1) q k).length := by
  rw [encodeInt_succ]
  split <;> simp

theorem digit_ne_dash : ∀ d : Fin 36, digitToChar d.val ≠ 0x2D := by decide +kernel

theorem encodeInt_nodash (bias : Nat) : ∀ (f q k : Nat), ∀ x ∈ encodeInt bias f q k, x ≠ 0x2D
  | 0, _, _, _, hx => nomatch hx
  | f + 1, q, k, x, hx => by
    obtain ⟨h1, h2⟩ := threshold_range k bias
    rw [encodeInt_succ] at hx
    split at hx
    · rw [List.mem_singleton.mp hx]
      exact digit_ne_dash ⟨q, by omega⟩
    · rcases List.mem_cons.mp hx with rfl | hx
      · exact digit_ne_dash ⟨_, digit_lt _ q h1 h2⟩
      · exact encodeInt_nodash bias f _ _ x hx

/-- `decodeLoop` (the main loop of `punycode_to_utf32`) without the overflow test on `n`, without the refusal of a code
    point below 0x80, and with `decodeIntU` for the inner loop -/
def decodeLoopU : Nat → Bytes → List Nat → Nat → Nat → Nat → Option (List Nat)
  | 0, _, _, _, _, _ => none
  | f + 1, input, out, n, i, bias =>
    if input.isEmpty then some out else
    match decodeIntU bias (input.length + 1) input i 1 base with
    | none => none
    | some (i', rest) =>
      decodeLoopU f rest (insertAt out (i' % (out.length + 1)) (n + i' / (out.length + 1))) (n + i' / (out.length + 1))
        (i' % (out.length + 1) + 1) (adapt (i' - i) (out.length + 1) (i == 0))

theorem decodeIntU_len (bias : Nat) (f : Nat) : ∀ (input : Bytes) (i w k i' : Nat) (rest : Bytes),
    decodeIntU bias f input i w k = some (i', rest) → rest.length < input.length := by
  induction f with
  | zero => intro input i w k i' rest h; simp [decodeIntU] at h
  | succ f ih =>
    intro input i w k i' rest h
    cases input with
    | nil => simp [decodeIntU] at h
    | cons c t =>
      cases hc : charToDigit c with
      | none => simp [decodeIntU, hc] at h
      | some d =>
        rw [decodeIntU_cons bias f c t i w k d hc] at h
        split at h
        · cases h
          exact Nat.lt_succ_self _
        · exact Nat.lt_succ_of_lt (ih _ _ _ _ _ _ h)

theorem decodeLoopU_fuel (F : Nat) : ∀ (G : Nat) (inp : Bytes) (out : List Nat) (n i bias : Nat),
    inp.length < F → inp.length < G → decodeLoopU F inp out n i bias = decodeLoopU G inp out n i bias := by
  induction F with
  | zero => intro G inp out n i bias h; omega
  | succ F ih =>
    intro G inp out n i bias hF hG
    obtain ⟨G, rfl⟩ : ∃ G', G = G' + 1 := ⟨G - 1, by omega⟩
    unfold decodeLoopU
    split
    · rfl
    · cases hd : decodeIntU bias (inp.length + 1) inp i 1 base with
      | none => rfl
      | some p =>
        have := decodeIntU_len bias _ inp i 1 base p.1 p.2 hd
        exact ih G p.2 _ _ _ _ (by omega) (by omega)

theorem emit_step (bias d : Nat) (cont : Bytes) (out : List Nat) (n i : Nat) (hd : d < 10 ^ 63) :
    decodeLoopU ((encodeInt bias 64 d base ++ cont).length + 1) (encodeInt bias 64 d base ++ cont) out n i bias =
      decodeLoopU (cont.length + 1) cont (insertAt out ((i + d) % (out.length + 1)) (n + (i + d) / (out.length + 1)))
        (n + (i + d) / (out.length + 1)) ((i + d) % (out.length + 1) + 1) (adapt d (out.length + 1) (i == 0)) := by
  have hpos : 0 < (encodeInt bias 64 d base).length := encodeInt_length_pos bias 63 d base
  have hne : (encodeInt bias 64 d base ++ cont).isEmpty = false := by
    rw [List.isEmpty_eq_false_iff, ← List.length_pos_iff, List.length_append]
    omega
  conv => lhs; unfold decodeLoopU
  rw [hne, varint_roundtrip bias _ 63 d base i 1 cont hd
    (by show (encodeInt bias 64 d base).length ≤ _; rw [List.length_append]; omega)]
  simp only [Bool.false_eq_true, ↓reduceIte, Nat.mul_one, Nat.add_sub_cancel_left]
  exact decodeLoopU_fuel _ _ _ _ _ _ _ (by rw [List.length_append]; omega) (Nat.lt_succ_self _)

theorem insertAt_mid (A B : List Nat) (x : Nat) : insertAt (A ++ B) A.length x = A ++ x :: B := by
  simp [insertAt]

theorem insertAt_len (l : List Nat) (i x : Nat) (h : i ≤ l.length) : (insertAt l i x).length = l.length + 1 := by
  simp [insertAt]; omega

def below (m : Nat) (l : List Nat) : List Nat := l.filter (· < m)

theorem below_cons_lt {m c : Nat} (l : List Nat) (h : c < m) : below m (c :: l) = c :: below m l := by
  simp [below, h]

theorem below_cons_ge {m c : Nat} (l : List Nat) (h : m ≤ c) : below m (c :: l) = below m l := by
  simp [below, Nat.not_lt.mpr h]

theorem below_length_le (m : Nat) (l : List Nat) : (below m l).length ≤ l.length := List.length_filter_le _ l

/-- where the decoder `(out, n, i)` stands while the encoder, scanning for the value `m` with `rest` still ahead, holds
    the pending delta `d` and the count `h`: the decoder's list is `A`, all that lies at or below `m` in what has been
    scanned, followed by what lies below `m` in `rest`; the delta would move `n` to `m` and `i` to the scan point, the
    end of `A`.  `b` is the number of basic code points: both sides call `adapt` with "first time" exactly at `h = b`. -/
structure Inv (m b : Nat) (A rest : List Nat) (d h : Nat) (out : List Nat) (n i : Nat) : Prop where
  list : out = A ++ below m rest
  len : h = out.length
  nle : n ≤ m
  lin : i + d = (m - n) * (h + 1) + A.length
  first : b ≤ h ∧ (i = 0 ↔ h = b)
  room : A.length + rest.length ≤ intMax

namespace Inv
variable {m b c : Nat} {A rest : List Nat} {d h : Nat} {out : List Nat} {n i : Nat}

theorem skip_lt (hI : Inv m b A (c :: rest) d h out n i) (hc : c < m) : Inv m b (A ++ [c]) rest (d + 1) h out n i := by
  refine ⟨?_, hI.len, hI.nle, ?_, hI.first, ?_⟩
  · rw [hI.list, below_cons_lt rest hc, List.append_assoc, List.singleton_append]
  · have := hI.lin
    rw [List.length_append, List.length_singleton]
    omega
  · have := hI.room
    rw [List.length_append, List.length_singleton]
    rw [List.length_cons] at this
    omega

theorem skip_gt (hI : Inv m b A (c :: rest) d h out n i) (hc : m < c) : Inv m b A rest d h out n i := by
  refine ⟨?_, hI.len, hI.nle, hI.lin, hI.first, ?_⟩
  · rw [hI.list, below_cons_ge rest (Nat.le_of_lt hc)]
  · have := hI.room
    rw [List.length_cons] at this
    omega

theorem emit (hI : Inv m b A (m :: rest) d h out n i) (hm : m ≤ 0x10FFFF) (bias : Nat) (cont : Bytes) :
    Inv m b (A ++ [m]) rest 0 (h + 1) (A ++ m :: below m rest) m (A.length + 1) ∧
    decodeLoopU ((encodeInt bias 64 d base ++ cont).length + 1) (encodeInt bias 64 d base ++ cont) out n i bias =
      decodeLoopU (cont.length + 1) cont (A ++ m :: below m rest) m (A.length + 1) (adapt d (h + 1) (h == b)) := by
  obtain ⟨hout, hlen, hnle, hlin, hfirst, hroom⟩ := hI
  rw [below_cons_ge rest (Nat.le_refl m)] at hout
  rw [List.length_cons] at hroom
  have hh : h = A.length + (below m rest).length := by rw [hlen, hout, List.length_append]
  have hk : A.length ≤ h := hh ▸ Nat.le_add_right _ _
  have hmax : h ≤ intMax := by
    have := below_length_le m rest
    omega
  -- at most 0x10FFFF * 2^31 + 2^31: 64 digits are never used up
  have hd : d < 10 ^ 63 :=
    calc d ≤ i + d := Nat.le_add_left d i
      _ = (m - n) * (h + 1) + A.length := hlin
      _ ≤ 0x10FFFF * (intMax + 1) + intMax :=
        Nat.add_le_add (Nat.mul_le_mul (Nat.le_trans (Nat.sub_le m n) hm) (Nat.succ_le_succ hmax)) (Nat.le_trans hk hmax)
      _ < 10 ^ 63 := by decide
  obtain ⟨hdiv, hmod⟩ := (Nat.div_mod_unique (Nat.succ_pos h)).mpr
    ⟨(Nat.add_comm _ _).trans ((congrArg (· + A.length) (Nat.mul_comm _ _)).trans hlin.symm), Nat.lt_succ_of_le hk⟩
  have hflag : (i == 0) = (h == b) := by
    rw [Bool.eq_iff_iff]
    simpa using hfirst.2
  refine ⟨⟨(List.append_assoc A [m] _).symm ▸ rfl, ?_, Nat.le_refl m, ?_, ⟨Nat.le_succ_of_le hfirst.1, ?_⟩, ?_⟩, ?_⟩
  · rw [List.length_append, List.length_cons, hh, Nat.add_assoc]
  · rw [Nat.sub_self, Nat.zero_mul, List.length_append, List.length_singleton, Nat.add_zero, Nat.zero_add]
  · have := hfirst.1
    omega
  · rw [List.length_append, List.length_singleton]
    omega
  · rw [emit_step bias d cont out n i hd, ← hlen, hdiv, hmod, Nat.add_sub_cancel' hnle, hflag, hout, insertAt_mid]

end Inv

theorem scan_sim (m b : Nat) (hm : m ≤ 0x10FFFF) : ∀ (rest A : List Nat) (d bias h : Nat) (enc : Bytes) (out : List Nat)
    (n i d' bias' h' : Nat) (enc' : Bytes),
    encodeScan m b rest d bias h enc = some (d', bias', h', enc') → Inv m b A rest d h out n i →
    ∃ (w : Bytes) (out' : List Nat) (n' i' : Nat), enc' = enc ++ w ∧ (∀ x ∈ w, x ≠ 0x2D) ∧
      Inv m b (A ++ below (m + 1) rest) [] d' h' out' n' i' ∧
      ∀ cont : Bytes, decodeLoopU ((w ++ cont).length + 1) (w ++ cont) out n i bias =
        decodeLoopU (cont.length + 1) cont out' n' i' bias' := by
  intro rest
  induction rest with
  | nil =>
    intro A d bias h enc out n i d' bias' h' enc' hs hI
    simp only [encodeScan, Option.some.injEq, Prod.mk.injEq] at hs
    obtain ⟨rfl, rfl, rfl, rfl⟩ := hs
    exact ⟨[], out, n, i, (List.append_nil _).symm, (fun _ hx => nomatch hx), by simpa [below] using hI, fun _ => rfl⟩
  | cons c rest ih =>
    intro A d bias h enc out n i d' bias' h' enc' hs hI
    unfold encodeScan at hs
    by_cases hlt : c < m
    · rw [if_pos hlt] at hs
      split at hs
      · cases hs
      · rw [below_cons_lt rest (Nat.lt_succ_of_lt hlt), ← List.singleton_append, ← List.append_assoc]
        exact ih (A ++ [c]) (d + 1) bias h enc out n i d' bias' h' enc' hs (hI.skip_lt hlt)
    · rw [if_neg hlt] at hs
      by_cases heq : c = m
      · subst heq
        rw [if_pos (beq_self_eq_true c)] at hs
        rw [below_cons_lt rest (Nat.lt_succ_self c), ← List.singleton_append, ← List.append_assoc]
        obtain ⟨w, out', n', i', e1, e2, e3, e4⟩ := ih (A ++ [c]) 0 (adapt d (h + 1) (h == b)) (h + 1) (enc ++ encodeInt bias 64 d base) _ c (A.length + 1)
          d' bias' h' enc' hs (hI.emit hm bias []).1
        refine ⟨encodeInt bias 64 d base ++ w, out', n', i', by rw [e1, List.append_assoc], ?_, e3, ?_⟩
        · intro x hx
          rcases List.mem_append.mp hx with hx | hx
          · exact encodeInt_nodash bias 64 d base x hx
          · exact e2 x hx
        · intro cont
          rw [List.append_assoc, (hI.emit hm bias (w ++ cont)).2, e4]
      · rw [if_neg (by simpa using heq)] at hs
        rw [below_cons_ge rest (by omega)]
        exact ih A d bias h enc out n i d' bias' h' enc' hs (hI.skip_gt (by omega))

theorem min_fold (n : Nat) (l : List Nat) : ∀ acc m : Nat,
    l.foldl (fun m c => if c ≥ n && c < m then c else m) acc = m →
    m ≤ acc ∧ (m = acc ∨ (m ∈ l ∧ n ≤ m)) ∧ ∀ c ∈ l, n ≤ c → m ≤ c := by
  induction l with
  | nil =>
    intro acc m h
    subst h
    exact ⟨Nat.le_refl _, Or.inl rfl, fun _ hc => nomatch hc⟩
  | cons x t ih =>
    intro acc m h
    simp only [List.foldl_cons] at h
    obtain ⟨i1, i2, i3⟩ := ih _ m h
    by_cases hx : (decide (x ≥ n) && decide (x < acc)) = true
    · rw [if_pos hx] at i1 i2
      simp only [Bool.and_eq_true, decide_eq_true_eq] at hx
      refine ⟨by omega, Or.inr ?_, ?_⟩
      · rcases i2 with rfl | ⟨e1, e2⟩
        · exact ⟨List.mem_cons_self, hx.1⟩
        · exact ⟨List.mem_cons_of_mem _ e1, e2⟩
      · intro c hc hn
        rcases List.mem_cons.mp hc with rfl | hc
        · exact i1
        · exact i3 c hc hn
    · rw [if_neg hx] at i1 i2
      simp only [Bool.and_eq_true, decide_eq_true_eq] at hx
      refine ⟨i1, i2.imp_right (fun e => ⟨List.mem_cons_of_mem _ e.1, e.2⟩), ?_⟩
      intro c hc hn
      rcases List.mem_cons.mp hc with rfl | hc
      · omega
      · exact i3 c hc hn

theorem below_same (n m : Nat) (l : List Nat) (hnm : n ≤ m) (hgap : ∀ c ∈ l, n ≤ c → m ≤ c) : below m l = below n l := by
  apply List.filter_congr
  intro c hc
  have := hgap c hc
  by_cases h1 : c < n <;> simp [h1] <;> omega

theorem mem_len_lt (m : Nat) (l : List Nat) (hm : m ∈ l) : (below m l).length < (below (m + 1) l).length := by
  have e : below m l = (below (m + 1) l).filter (· < m) := by
    unfold below
    rw [List.filter_filter]
    apply List.filter_congr
    intro c _
    by_cases h1 : c < m <;> simp [h1]
    omega
  rw [e]
  exact List.length_filter_lt_length_iff_exists.mpr ⟨m, List.mem_filter.mpr ⟨hm, by simp⟩, by simp⟩

namespace Inv
variable {m b : Nat} {input : List Nat} {d h : Nat} {out : List Nat} {n i k : Nat}

theorem raise (hI : Inv k b [] input d h out n i) (hkm : k ≤ m) (hgap : ∀ c ∈ input, k ≤ c → m ≤ c) :
    Inv m b [] input (d + (m - k) * (h + 1)) h out n i := by
  refine ⟨?_, hI.len, Nat.le_trans hI.nle hkm, ?_, hI.first, hI.room⟩
  · rw [hI.list, below_same k m input hkm hgap]
  · have := hI.lin
    have := hI.nle
    rw [show m - n = (k - n) + (m - k) by omega, Nat.add_mul]
    omega

theorem next (hI : Inv m b (below (m + 1) input) [] d h out n i) (hlen : input.length ≤ intMax) :
    Inv (m + 1) b [] input (d + 1) h out n i := by
  have hout : out = below (m + 1) input := by simpa [below] using hI.list
  refine ⟨by rw [hout, List.nil_append], hI.len, Nat.le_succ_of_le hI.nle, ?_, hI.first, by simpa using hlen⟩
  have hlin := hI.lin
  have := hI.nle
  rw [← hout, ← hI.len] at hlin
  rw [show m + 1 - n = (m - n) + 1 by omega, Nat.add_mul, Nat.one_mul, List.length_nil]
  omega

end Inv

theorem loop_sim (input : List Nat) (b : Nat) (hvalid : ∀ c ∈ input, c ≤ 0x10FFFF) (hlen : input.length ≤ intMax) :
    ∀ (f k d bias h : Nat) (enc : Bytes) (out : List Nat) (n i : Nat) (enc' : Bytes), input.length - h < f →
      encodeLoop input b f k d bias h enc = some enc' → Inv k b [] input d h out n i →
      ∃ w, enc' = enc ++ w ∧ (∀ x ∈ w, x ≠ 0x2D) ∧ decodeLoopU (w.length + 1) w out n i bias = some input := by
  intro f
  induction f with
  | zero => intro k d bias h enc out n i enc' hf; omega
  | succ f ih =>
    intro k d bias h enc out n i enc' hf he hI
    unfold encodeLoop at he
    have hout : out = below k input := hI.list
    have hh : h = (below k input).length := by rw [hI.len, hout]
    by_cases hlt : h < input.length
    · rw [if_pos hlt] at he
      obtain ⟨c, hc, hkc⟩ : ∃ c ∈ input, k ≤ c := by
        rw [hh] at hlt
        obtain ⟨c, hc, hkc⟩ := List.length_filter_lt_length_iff_exists.mp hlt
        exact ⟨c, hc, by simpa using hkc⟩
      generalize hm : input.foldl (fun m c => if c ≥ k && c < m then c else m) 0x10FFFF = m at he
      obtain ⟨i1, i2, i3⟩ := min_fold k input _ m hm
      have hmem : m ∈ input ∧ k ≤ m := by
        rcases i2 with rfl | e
        · have := i3 c hc hkc
          have := hvalid c hc
          obtain rfl : c = 0x10FFFF := by omega
          exact ⟨hc, hkc⟩
        · exact e
      simp only at he
      split at he
      · cases he
      · split at he
        · cases he
        · rename_i d2 bias2 h2 enc2 hsc
          obtain ⟨w, out2, n2, i2, e1, e2, hI2, e4⟩ :=
            scan_sim m b i1 input [] _ bias h enc out n i d2 bias2 h2 enc2 hsc (hI.raise hmem.2 i3)
          rw [List.nil_append] at hI2
          have hprog : h < h2 := by
            have := mem_len_lt m input hmem.1
            rw [hI2.len, hI2.list, hh, ← below_same k m input hmem.2 i3]
            simpa [below] using this
          obtain ⟨w2, e5, e6, e7⟩ := ih (m + 1) (d2 + 1) bias2 h2 enc2 out2 n2 i2 enc'
            (Nat.lt_of_lt_of_le (Nat.sub_lt_sub_left hlt hprog) (Nat.le_of_lt_succ hf)) he (hI2.next hlen)
          refine ⟨w ++ w2, by rw [e5, e1, List.append_assoc], ?_, ?_⟩
          · intro x hx
            rcases List.mem_append.mp hx with hx | hx
            · exact e2 x hx
            · exact e6 x hx
          · rw [e4, e7]
    · rw [if_neg hlt] at he
      injection he with he
      subst he
      refine ⟨[], (List.append_nil _).symm, (fun _ hx => nomatch hx), ?_⟩
      have := below_length_le k input
      rw [hout]
      exact congrArg some (List.filter_eq_self.mpr (List.length_filter_eq_length_iff.mp (by unfold below at hh this; omega)))

/-- `punycode_to_utf32` without the int32 guards and without the "decoded form begins with xn--" refusal -/
def decodeU (input : Bytes) : Option (List Nat) :=
  let (basic, ext) : Bytes × Bytes :=
    match lastIndexOfDash input with
    | some e => (input.take e, input.drop (e + 1))
    | none => ([], input)
  decodeLoopU (ext.length + 1) ext (basic.map (·.toNat)) initialN 0 initialBias

theorem lastIndexOfDash_eq (l : Bytes) : lastIndexOfDash l = Spec.lastIndexOf 0x2D l := by
  have go : ∀ (l : Bytes) (i : Nat) (acc : Option Nat), lastIndexOfDash.go l i acc = Spec.lastIndexOf.go 0x2D l i acc := by
    intro l
    induction l with
    | nil => intro i acc; rfl
    | cons b t ih => intro i acc; exact ih _ _
  exact go l 0 none

theorem decodeU_dash (pre t : Bytes) (ht : ∀ x ∈ t, x ≠ 0x2D) :
    decodeU (pre ++ 0x2D :: t) = decodeLoopU (t.length + 1) t (pre.map (·.toNat)) initialN 0 initialBias := by
  unfold decodeU
  rw [lastIndexOfDash_eq, lastIndexOf_last 0x2D pre t fun h => ht _ h rfl]
  simp

theorem decodeU_nodash (t : Bytes) (ht : ∀ x ∈ t, x ≠ 0x2D) :
    decodeU t = decodeLoopU (t.length + 1) t [] initialN 0 initialBias := by
  unfold decodeU
  rw [lastIndexOfDash_eq, lastIndexOf_none 0x2D t fun h => ht _ h rfl]
  rfl

theorem roundtripU (s : List Nat) (e : Bytes) (hlen : s.length ≤ intMax) (h : encode s = some e) : decodeU e = some s := by
  unfold encode at h
  split at h; · cases h
  rename_i hvalid
  have hv : ∀ c ∈ s, c ≤ 0x10FFFF := by
    intro c hc
    simp only [List.any_eq_true, Bool.or_eq_true, decide_eq_true_eq, Bool.and_eq_true, not_exists, not_and, not_or] at hvalid
    have := (hvalid c hc).1
    omega
  have hI : Inv 128 (below 128 s).length [] s 0 (below 128 s).length (below 128 s) 128 0 :=
    ⟨rfl, rfl, Nat.le_refl _, by simp, by simp, by simpa using hlen⟩
  obtain ⟨w, e1, e2, e3⟩ := loop_sim s _ hv hlen (s.length + 1) initialN 0 initialBias _ _ _ _ _ e (by omega) h hI
  have hmap : ((below 128 s).map UInt8.ofNat).map (·.toNat) = below 128 s := by
    rw [List.map_map]
    refine map_eq_self _ _ fun c hc => ?_
    have : c < 128 := by simpa [below] using (List.mem_filter.mp hc).2
    simp only [Function.comp, UInt8.toNat_ofNat']
    omega
  rw [e1]
  -- what `encode` wrote before the loop, spelt as in `Model.Puny.encode` (basic code points, then the delimiter if there
  -- are any): definitionally the `out` of the hypothesis
  change decodeU ((if (below 128 s).length > 0 then (below 128 s).map UInt8.ofNat ++ [0x2D] else (below 128 s).map UInt8.ofNat) ++ w) = _
  split
  · rw [List.append_assoc, List.singleton_append, decodeU_dash _ w e2, hmap]
    exact e3
  · rw [List.eq_nil_of_length_eq_zero (by omega : (below 128 s).length = 0)] at e3 ⊢
    rw [List.map_nil, List.nil_append, decodeU_nodash w e2]
    exact e3

/-- the bounds keep `i ≤ intMax`, which `guards_only_reject` needs: `i` is at most the length of the output, and that
    plus the unread input stays below `intMax` -/
theorem loop_guarded (f : Nat) : ∀ (inp : Bytes) (out : List Nat) (n i bias : Nat) (r : List Nat),
    decodeLoop f inp out n i bias = some r → i ≤ intMax → out.length + inp.length < intMax →
    decodeLoopU f inp out n i bias = some r := by
  induction f with
  | zero => intro inp out n i bias r h; simp [decodeLoop] at h
  | succ f ih =>
    intro inp out n i bias r h hi hsz
    unfold decodeLoop at h
    unfold decodeLoopU
    by_cases he : inp.isEmpty = true
    · simp only [he, ↓reduceIte] at h ⊢; exact h
    · simp only [he, Bool.false_eq_true, ↓reduceIte] at h ⊢
      cases hdi : decodeInt bias (inp.length + 1) inp i 1 base with
      | none => simp [hdi] at h
      | some p =>
        obtain ⟨i', rest⟩ := p
        obtain ⟨hu, hfit⟩ := guards_only_reject bias _ inp i 1 base (i', rest) (by decide) hi hdi
        simp only [hdi] at h
        simp only [hu]
        split at h
        · cases h
        · split at h
          · cases h
          · have hrl := decodeIntU_len bias _ inp i 1 base i' rest hu
            have hpos : i' % (out.length + 1) ≤ out.length := by
              have := Nat.mod_lt i' (by omega : 0 < out.length + 1); omega
            apply ih _ _ _ _ _ _ h
            · omega
            · rw [insertAt_len _ _ _ hpos]; omega

theorem xn_refusal (o : Option (List Nat)) (r : List Nat)
    (h : (match o with
      | none => none
      | some out =>
        match out with
        | 0x78 :: 0x6E :: 0x2D :: 0x2D :: _ => none
        | _ => some out) = some r) : o = some r := by
  cases o with
  | none => cases h
  | some out =>
    simp only at h
    split at h
    · cases h
    · exact h

theorem decode_sound (e : Bytes) (r : List Nat) (hlen : e.length < intMax) (h : decode e = some r) : decodeU e = some r := by
  unfold decode at h
  unfold decodeU
  cases hld : lastIndexOfDash e with
  | none =>
    simp only [hld] at h ⊢
    split at h
    · cases h
    · exact loop_guarded _ _ _ _ _ _ _ (xn_refusal _ r h) (by decide) (by simp; omega)
  | some k =>
    simp only [hld] at h ⊢
    split at h
    · cases h
    · exact loop_guarded _ _ _ _ _ _ _ (xn_refusal _ r h) (by decide)
        (by simp only [List.length_map, List.length_take, List.length_drop]; omega)

theorem roundtrip (s : List Nat) (e : Bytes) (r : List Nat) (hs : s.length ≤ intMax) (he : e.length < intMax)
    (henc : encode s = some e) (hdec : decode e = some r) : r = s :=
  Option.some.inj ((decode_sound e r he hdec).symm.trans (roundtripU s e hs henc))

end AdaVerif.Lemmas.Puny
