import AdaVerif.Lemmas.FastNumber
/-
C08: what the merged authority + host scan of the fast scanner has established when it runs to the end of the
authority (every early return of that loop is `nullopt`).  Each statement is proved by induction along the branches
of `authScan` itself.
-/
namespace AdaVerif.Lemmas.FS
open AdaVerif AdaVerif.Spec AdaVerif.Lemmas AdaVerif.Model.FastScan

def delimHead (rest : Bytes) : Prop := ∀ b, rest.head? = some b → (b = 0x2F ∨ b = 0x3F ∨ b = 0x23 ∨ b = 0x5C)

def authByte (b : UInt8) : Prop :=
  b.toNat < 0x80 ∧ b ≠ 0x2F ∧ b ≠ 0x3F ∧ b ≠ 0x23 ∧ b ≠ 0x5C ∧ b ≠ 0x40 ∧ b ≠ 0x25 ∧ isTabNl b = false

def hostOk (b : UInt8) : Prop := authByte b ∧ b ≠ 0x3A ∧ isForbiddenDomain b = false

theorem delimHead_nil : delimHead [] := fun _ hb => by cases hb

theorem delimHead_cons (c : UInt8) (rest : Bytes) (h : (c == 0x2F || c == 0x3F || c == 0x23 || c == 0x5C) = true) :
    delimHead (c :: rest) := by
  intro b hb
  injection hb with hb
  subst hb
  simpa [or_assoc] using h

theorem authByte_of {c : UInt8} (h80 : ¬ c.toNat ≥ 0x80) (hd : ¬ (c == 0x2F || c == 0x3F || c == 0x23 || c == 0x5C) = true)
    (hat : ¬ (c == 0x40 || c == 0x25) = true) (htn : ¬ isTabNl c = true) : authByte c := by
  simp only [Bool.or_eq_true, beq_iff_eq, not_or] at hd hat
  exact ⟨by omega, hd.1.1.1, hd.1.1.2, hd.1.2, hd.2, hat.1, hat.2, by simpa using htn⟩

theorem authByte_colon : authByte 0x3A := by unfold authByte; decide

theorem authScan_inl (l : Bytes) (i : Nat) (st : AuthSt) (r : Option Bool) (h : authScan l i st = .inl r) : r = none := by
  fun_induction authScan l i st
  case case1 => cases h
  case case2 => cases h; rfl
  case case3 => cases h
  case case4 ih => exact ih h
  case case5 => cases h; rfl
  case case6 => cases h; rfl
  case case7 ih => exact ih h
  case case8 => cases h; rfl
  case case9 => cases h; rfl
  case case10 ih => exact ih h

/-- from index `i` the text `l` is a port up to the end of the authority at index `e` -/
def PortRun (l : Bytes) (i e : Nat) : Prop :=
  ∃ port rest, l = port ++ rest ∧ e = i + port.length ∧ delimHead rest ∧ ∀ b ∈ port, authByte b

theorem PortRun.stop {l : Bytes} (i : Nat) (h : delimHead l) : PortRun l i i := ⟨[], l, rfl, rfl, h, by simp⟩

theorem PortRun.cons {c : UInt8} {l : Bytes} {i e : Nat} (hc : authByte c) (h : PortRun l (i + 1) e) : PortRun (c :: l) i e := by
  obtain ⟨port, rest, e1, e2, e3, e4⟩ := h
  exact ⟨c :: port, rest, by rw [e1]; rfl, by rw [e2, List.length_cons]; omega, e3, List.forall_mem_cons.mpr ⟨hc, e4⟩⟩

theorem seeColon_again (st : AuthSt) (i : Nat) (hp : st.portColon.isSome = true) :
    (if st.portColon.isNone = true then { st with portColon := some i } else st) = st := by
  cases hq : st.portColon <;> simp [hq] at hp ⊢

theorem authScan_port (l : Bytes) (i : Nat) (st : AuthSt) (hp : st.portColon.isSome = true) (e : Nat) (st' : AuthSt)
    (h : authScan l i st = .inr (e, st')) : st' = st ∧ PortRun l i e := by
  fun_induction authScan l i st
  case case1 => cases h; exact ⟨rfl, .stop _ delimHead_nil⟩
  case case2 => cases h
  case case3 c rest _ _ _ hd => cases h; exact ⟨rfl, .stop _ (delimHead_cons c rest hd)⟩
  case case4 st _ _ hc ih =>
    rw [seeColon_again st _ hp] at ih h
    rw [beq_iff_eq] at hc
    subst hc
    exact ⟨(ih hp h).1, .cons authByte_colon (ih hp h).2⟩
  case case5 => cases h
  case case6 => cases h
  case case7 h80 hd _ hat htn _ ih => exact ⟨(ih hp h).1, .cons (authByte_of h80 hd hat htn) (ih hp h).2⟩
  case case8 hno _ => exact absurd hp hno
  case case9 hno _ _ => exact absurd hp hno
  case case10 hno _ _ _ _ _ => exact absurd hp hno

def decOrDot (b : UInt8) : Bool := b == 0x2E || isDigit b

theorem host_byte_table : ∀ c : UInt8, c.toNat < 0x80 → c ≠ 0x2F → c ≠ 0x3F → c ≠ 0x23 → c ≠ 0x5C → c ≠ 0x3A → c ≠ 0x40 →
    c ≠ 0x25 → (c.toNat ≤ 0x20 || c == 0x7F || c == 0x3C || c == 0x3E || c == 0x5B || c == 0x5D || c == 0x5E || c == 0x7C) = false →
    isForbiddenDomain c = false := by
  apply forall_uint8_of_fin; decide +kernel

theorem lastNonDotOf_cons (c : UInt8) (host : Bytes) (d : UInt8) :
    (lastNonDotOf (c :: host)).getD d = (lastNonDotOf host).getD (if c != 0x2E then c else d) := by
  unfold lastNonDotOf
  simp only [List.filter_cons]
  by_cases hc : (c != 0x2E) = true
  · simp only [hc, ↓reduceIte]
    cases hq : (host.filter (· != 0x2E)) with
    | nil => simp
    | cons x t =>
      have : (c :: x :: t).getLast? = (x :: t).getLast? := by simp [List.getLast?_cons_cons]
      rw [this]
      cases hg : (x :: t).getLast? with
      | none => simp at hg
      | some z => rfl
  · simp only [hc, Bool.false_eq_true, ↓reduceIte]

theorem note_fields (st : AuthSt) (c : UInt8) :
    let st1 := if (c != 0x2E && !isDigit c) = true then { st with allDecDots := false } else st
    let st2 := if (c != 0x2E) = true then { st1 with lastNonDot := c } else st1
    st2.portColon = st.portColon ∧ st2.allDecDots = (st.allDecDots && decOrDot c) ∧
      st2.lastNonDot = (if (c != 0x2E) = true then c else st.lastNonDot) := by
  by_cases hdot : c = 0x2E
  · -- a dot changes nothing
    subst hdot
    exact ⟨rfl, (Bool.and_true _).symm, rfl⟩
  · have hne : (c != 0x2E) = true := by simpa using hdot
    have hbeq : (c == 0x2E) = false := by simpa using hdot
    cases hdig : isDigit c
    · -- not a digit: the flag drops
      simp [hne, hdig, decOrDot, hbeq]
    · simp [hne, hdig, decOrDot]

/-- what follows the host, which ends at index `k`: an optional ':' and port up to the end of the authority at
    index `e`; `pc` is the recorded position of the colon -/
def HostEnd (tl : Bytes) (k e : Nat) (pc : Option Nat) : Prop :=
  ∃ (port : Option Bytes) (rest : Bytes), tl = Cut.sfx 0x3A port ++ rest ∧ delimHead rest ∧ pc = port.map (fun _ => k) ∧
    e = k + (Cut.sfx 0x3A port).length ∧ ∀ p, port = some p → ∀ b ∈ p, authByte b

def HostRun (l : Bytes) (i : Nat) (st : AuthSt) (e : Nat) (st' : AuthSt) : Prop :=
  ∃ host tl, l = host ++ tl ∧ (∀ b ∈ host, hostOk b) ∧
    (∀ a b, host = a ++ b → b ≠ [] → xnAt (b ++ tl) = false) ∧
    st'.allDecDots = (st.allDecDots && host.all decOrDot) ∧
    st'.lastNonDot = (lastNonDotOf host).getD st.lastNonDot ∧ HostEnd tl (i + host.length) e st'.portColon

theorem HostRun.stop {l : Bytes} {i e : Nat} {st st' : AuthSt} (hend : HostEnd l i e st'.portColon)
    (h1 : st'.allDecDots = st.allDecDots) (h2 : st'.lastNonDot = st.lastNonDot) : HostRun l i st e st' := by
  refine ⟨[], l, rfl, by simp, ?_, by simp [h1], by simp [lastNonDotOf, h2], hend⟩
  intro a b hab hb
  exact absurd (List.append_eq_nil_iff.mp hab.symm).2 hb

theorem authScan_host (l : Bytes) (i : Nat) (st : AuthSt) (hp : st.portColon = none) (e : Nat) (st' : AuthSt)
    (h : authScan l i st = .inr (e, st')) : HostRun l i st e st' := by
  fun_induction authScan l i st
  case case1 => cases h; exact .stop ⟨none, [], rfl, delimHead_nil, hp, rfl, nofun⟩ rfl rfl
  case case2 => cases h
  case case3 c rest _ _ _ hd => cases h; exact .stop ⟨none, c :: rest, rfl, delimHead_cons c rest hd, hp, rfl, nofun⟩ rfl rfl
  case case4 c rest i st _ _ hc _ =>
    rw [beq_iff_eq] at hc
    subst hc
    simp only [hp, Option.isNone_none, ↓reduceIte] at h
    obtain ⟨hst, port, tl, e1, e2, e3, e4⟩ := authScan_port rest (i + 1) _ rfl e st' h
    subst hst
    refine .stop ⟨some port, tl, by rw [e1]; rfl, e3, rfl, by rw [e2, Nat.add_assoc, Nat.add_comm 1]; rfl, ?_⟩ rfl rfl
    intro p hp
    cases hp
    exact e4
  case case5 => cases h
  case case6 => cases h
  case case7 hsome _ => rw [hp] at hsome; cases hsome
  case case8 => cases h
  case case9 => cases h
  case case10 c rest i st h80 hd hcolon hat htn _ hforb st1 st2 hxn ih =>
    obtain ⟨f1, f2, f3⟩ : st2.portColon = st.portColon ∧ st2.allDecDots = (st.allDecDots && decOrDot c) ∧
      st2.lastNonDot = (if (c != 0x2E) = true then c else st.lastNonDot) := note_fields st c
    obtain ⟨host, tl, e1, e2, e3, e4, e5, e6⟩ := ih (f1.trans hp) h
    have hab := authByte_of h80 hd hat htn
    have hc : c ≠ 0x3A := by simpa using hcolon
    have hok : hostOk c := by
      have ⟨a80, aSl, aQ, aH, aBs, aAt, aPct, _⟩ := hab
      exact ⟨hab, hc, host_byte_table c a80 aSl aQ aH aBs hc aAt aPct (by simpa using hforb)⟩
    refine ⟨c :: host, tl, by rw [e1]; rfl, List.forall_mem_cons.mpr ⟨hok, e2⟩, ?_, ?_, ?_, ?_⟩
    · intro a b hab hb
      cases a with
      | nil => rw [← List.nil_append b, ← hab, List.cons_append, ← e1]; simpa using hxn
      | cons a0 a' => exact e3 a' b (List.cons.inj hab).2 hb
    · rw [e4, f2, List.all_cons, Bool.and_assoc]
    · rw [e5, f3, lastNonDotOf_cons]
    · rw [List.length_cons, ← Nat.add_assoc, Nat.add_right_comm]; exact e6

end AdaVerif.Lemmas.FS
