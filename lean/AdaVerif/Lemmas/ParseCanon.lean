import AdaVerif.Lemmas.HostCanon
/-
`Spec.parse` returns canonical records (`FP.Canon`): for every input and every canonical base, when the IDNA
parameter is stable.  Together with `FP.parse_href_canon` this is the fixed-point property C05 for all inputs.
-/
namespace AdaVerif.Lemmas.PC
open AdaVerif AdaVerif.Spec AdaVerif.Lemmas AdaVerif.Lemmas.FP AdaVerif.Lemmas.HC

def SegsOk (sp : Bool) (path : List Bytes) : Prop := ∀ s ∈ path, SegOk sp s
def DriveOk (path : List Bytes) : Prop :=
  ∀ s, path.head? = some s → isWindowsDriveLetter s = true → isNormalizedWindowsDriveLetter s = true

theorem splitPath_sepfree (sp : Bool) (t : Bytes) : ∀ seg ∈ splitPath sp t, ∀ b ∈ seg, isSep sp b = false := by
  induction t with
  | nil => intro seg hs b hb; simp [splitPath] at hs; subst hs; simp at hb
  | cons c rest ih =>
    intro seg hs b hb
    simp only [splitPath] at hs
    split at hs
    · rcases List.mem_cons.mp hs with rfl | hs
      · simp at hb
      · exact ih seg hs b hb
    · rename_i hc
      cases hsp : splitPath sp rest with
      | nil => exact absurd hsp (splitPath_ne_nil sp rest)
      | cons h tl =>
        rw [hsp] at hs ih
        simp only [List.mem_cons] at hs
        rcases hs with rfl | hs
        · rcases List.mem_cons.mp hb with rfl | hb
          · unfold isSep; simpa using hc
          · exact ih h (by simp) b hb
        · exact ih seg (by simp [hs]) b hb

theorem segOk_nil (sp : Bool) : SegOk sp [] :=
  ⟨by simp, by simp, by decide, by decide⟩

theorem segOk_enc (sp : Bool) (seg : Bytes) (hsep : ∀ b ∈ seg, isSep sp b = false)
    (h1 : isSingleDot (percentEncode inPath seg) = false) (h2 : isDoubleDot (percentEncode inPath seg) = false) :
    SegOk sp (percentEncode inPath seg) := by
  refine ⟨percentEncode_clean inPath (fun b hb => (pctb_facts b hb).2.2.2.2.1) seg, ?_, h1, h2⟩
  intro b hb
  rcases mem_percentEncode inPath seg b hb with h | h
  · exact hsep b h.1
  · have := pctb_facts b h
    have e1 : (b == 0x2F) = false := by simpa using this.2.2.2.2.2.2.2.1
    have e2 : (b == 0x5C) = false := by simpa using this.2.2.2.2.2.2.2.2.1
    simp [isSep, e1, e2]

theorem alpha_seg : ∀ a : UInt8, isAsciiAlpha a = true → inPath a = false ∧ a ≠ 0x2F ∧ a ≠ 0x5C ∧ toLowerByte a ≠ 0x2E := by
  apply forall_uint8_of_fin; decide +kernel

theorem segOk_drive (sp : Bool) (a : UInt8) (ha : isAsciiAlpha a = true) : SegOk sp [a, 0x3A] := by
  have f := alpha_seg a ha
  refine ⟨?_, ?_, ?_, ?_⟩
  · intro b hb
    simp only [List.mem_cons, List.not_mem_nil, or_false] at hb
    rcases hb with rfl | rfl
    · exact f.1
    · decide
  · intro b hb
    simp only [List.mem_cons, List.not_mem_nil, or_false] at hb
    rcases hb with rfl | rfl
    · have e1 : (b == 0x2F) = false := by simpa using f.2.1
      have e2 : (b == 0x5C) = false := by simpa using f.2.2.1
      simp [isSep, e1, e2]
    · cases sp <;> decide
  · simp [isSingleDot, lowerAscii]
  · have e : (toLowerByte a == 0x2E) = false := by simpa using f.2.2.2
    simp [isDoubleDot, lowerAscii, e]

theorem segsOk_snoc (sp : Bool) (acc : List Bytes) (s : Bytes) (ha : SegsOk sp acc) (hs : SegOk sp s) : SegsOk sp (acc ++ [s]) := by
  intro x hx
  rcases List.mem_append.mp hx with hx | hx
  · exact ha x hx
  · simp at hx; subst hx; exact hs

theorem driveOk_snoc (acc : List Bytes) (s : Bytes) (ha : DriveOk acc)
    (hs : acc = [] → isWindowsDriveLetter s = true → isNormalizedWindowsDriveLetter s = true) : DriveOk (acc ++ [s]) := by
  cases acc with
  | nil => intro x hx hw; simp at hx; subst hx; exact hs rfl hw
  | cons a t => intro x hx hw; exact ha x (by simpa using hx) hw

theorem shortenPath_segs (sp : Bool) (scheme : Bytes) (path : List Bytes) (hs : SegsOk sp path) :
    SegsOk sp (shortenPath scheme path) := by
  unfold shortenPath
  split
  · split
    · exact hs
    · intro x hx; simp at hx
  · exact fun x hx => hs x (List.dropLast_subset _ hx)

theorem shortenPath_drive (scheme : Bytes) (path : List Bytes) (hd : DriveOk path) : DriveOk (shortenPath scheme path) := by
  unfold shortenPath
  split
  · split
    · exact hd
    · intro x hx; simp at hx
  · cases path with
    | nil => intro x hx; simp at hx
    | cons a t =>
      cases t with
      | nil => intro x hx; simp at hx
      | cons b t' => intro x hx hw; exact hd x (by simpa [List.dropLast] using hx) hw

theorem normalized_drive : isNormalizedWindowsDriveLetter [a, 0x3A] = isAsciiAlpha a := by
  simp [isNormalizedWindowsDriveLetter]

theorem wdl_shape (s : Bytes) (h : isWindowsDriveLetter s = true) : ∃ a b, s = [a, b] ∧ isAsciiAlpha a = true := by
  unfold isWindowsDriveLetter at h
  split at h
  · rename_i a b
    simp only [Bool.and_eq_true] at h
    exact ⟨a, b, rfl, h.1⟩
  · cases h

theorem wdl_nil : isWindowsDriveLetter [] = false := rfl

/-- the segment the path state appends (`pushed`: the encoded segment, a drive letter normalised) -/
theorem pushed_ok (sp : Bool) (scheme : Bytes) (acc : List Bytes) (enc pushed : Bytes)
    (hp : pushed = if (scheme == bFile && acc.isEmpty && isWindowsDriveLetter enc) = true then
      (match enc with | [a, _] => [a, 0x3A] | _ => enc) else enc) (hE : SegOk sp enc) :
    SegOk sp pushed ∧
    (scheme = bFile → acc = [] → isWindowsDriveLetter pushed = true → isNormalizedWindowsDriveLetter pushed = true) := by
  subst hp
  by_cases hc : (scheme == bFile && acc.isEmpty && isWindowsDriveLetter enc) = true
  · have hc' := hc
    simp only [Bool.and_eq_true] at hc'
    obtain ⟨a, b, rfl, ha⟩ := wdl_shape enc hc'.2
    simp only [hc, ↓reduceIte]
    exact ⟨segOk_drive _ a ha, fun _ _ _ => by simp [isNormalizedWindowsDriveLetter, ha]⟩
  · simp only [hc, Bool.false_eq_true, ↓reduceIte]
    refine ⟨hE, fun hf he hw => ?_⟩
    exfalso; apply hc
    simp [hf, he, hw]

theorem pathSegments_ok (scheme : Bytes) (segs acc : List Bytes)
    (hsegs : ∀ seg ∈ segs, ∀ b ∈ seg, isSep (isSpecialScheme scheme) b = false)
    (hacc : SegsOk (isSpecialScheme scheme) acc) (hd : scheme = bFile → DriveOk acc) :
    SegsOk (isSpecialScheme scheme) (pathSegments scheme segs acc) ∧
    (scheme = bFile → DriveOk (pathSegments scheme segs acc)) := by
  induction segs generalizing acc with
  | nil => simpa [pathSegments] using ⟨hacc, hd⟩
  | cons seg more ih =>
    unfold pathSegments
    simp only
    have hmore : ∀ s ∈ more, ∀ b ∈ s, isSep (isSpecialScheme scheme) b = false := fun s hs => hsegs s (by simp [hs])
    have hE := segOk_enc (isSpecialScheme scheme) seg (hsegs seg (by simp))
    generalize percentEncode inPath seg = enc at hE ⊢
    have hnil := segOk_nil (isSpecialScheme scheme)
    have hpush := pushed_ok (isSpecialScheme scheme) scheme acc enc _ rfl
    apply ih _ hmore
    · split
      · have hs := shortenPath_segs _ scheme acc hacc
        split
        · exact segsOk_snoc _ _ _ hs hnil
        · exact hs
      · split
        · split
          · exact segsOk_snoc _ _ _ hacc hnil
          · exact hacc
        · rename_i h2 h1
          exact segsOk_snoc _ _ _ hacc (hpush (hE (by simpa using h1) (by simpa using h2))).1
    · intro hf
      have hda := hd hf
      split
      · have hs := shortenPath_drive scheme acc hda
        split
        · exact driveOk_snoc _ _ hs (fun _ h => by simp [wdl_nil] at h)
        · exact hs
      · split
        · split
          · exact driveOk_snoc _ _ hda (fun _ h => by simp [wdl_nil] at h)
          · exact hda
        · rename_i h2 h1
          exact driveOk_snoc _ _ hda ((hpush (hE (by simpa using h1) (by simpa using h2))).2 hf)

/-- the path state reads its scheme only to ask "is it `file`?" -/
theorem pathSegments_scheme (s1 s2 : Bytes) (h1 : (s1 == bFile) = false) (h2 : (s2 == bFile) = false) :
    ∀ (segs path : List Bytes), pathSegments s1 segs path = pathSegments s2 segs path := by
  intro segs
  induction segs with
  | nil => intro path; rfl
  | cons seg more ih =>
    intro path
    unfold pathSegments
    simp only [h1, h2, Bool.false_and, Bool.false_eq_true, ↓reduceIte]
    have hsh : shortenPath s1 path = shortenPath s2 path := by
      unfold shortenPath
      simp only [h1, h2, Bool.false_and, Bool.false_eq_true, ↓reduceIte]
    rw [hsh]
    exact ih _

theorem pathState_ok (scheme : Bytes) (path0 : List Bytes) (text : Bytes)
    (h0 : SegsOk (isSpecialScheme scheme) path0) (hd : scheme = bFile → DriveOk path0) :
    SegsOk (isSpecialScheme scheme) (pathState scheme path0 text) ∧ (scheme = bFile → DriveOk (pathState scheme path0 text)) := by
  unfold pathState
  exact pathSegments_ok scheme _ path0 (splitPath_sepfree _ text) h0 hd

theorem segsOk_nil (sp : Bool) : SegsOk sp [] := by intro x hx; simp at hx
theorem driveOk_nil : DriveOk [] := by intro x hx; simp at hx

theorem pathStartState_ok (scheme : Bytes) (text : Bytes) :
    SegsOk (isSpecialScheme scheme) (pathStartState scheme text) ∧ (scheme = bFile → DriveOk (pathStartState scheme text)) := by
  have key := fun t => pathState_ok scheme [] t (segsOk_nil _) (fun _ => driveOk_nil)
  unfold pathStartState
  split
  · split
    · split <;> exact key _
    · exact key _
  · split
    · exact ⟨segsOk_nil _, fun _ => driveOk_nil⟩
    · split <;> exact key _

theorem canon_mk_auth (idna : Idna) (scheme user pass : Bytes) (h : Host) (port : Option Nat) (path : List Bytes)
    (q : Option Bytes)
    (hs : schemeOk scheme = true)
    (hu : ∀ b ∈ user, inUserinfo b = false) (hpw : ∀ b ∈ pass, inUserinfo b = false)
    (hh : HostCanon idna (isSpecialScheme scheme) h) (hport : portOk scheme port)
    (hemp : (h = .empty ∨ scheme = bFile) → user = [] ∧ pass = [] ∧ port = none)
    (hsp : isSpecialScheme scheme = true → path ≠ [] ∧ (scheme ≠ bFile → h ≠ .empty))
    (hloc : scheme = bFile → h ≠ .domain bLocalhost)
    (hsegs : SegsOk (isSpecialScheme scheme) path) (hdrive : scheme = bFile → DriveOk path)
    (hq : ∀ x, q = some x → ∀ b ∈ x, (if isSpecialScheme scheme then inSpecialQuery b else inQuery b) = false) :
    Canon idna { scheme, username := user, password := pass, host := some h, port, path, query := q } where
  scheme := hs
  user := hu
  pass := hpw
  host := by intro h' hh'; injection hh' with e; subst e; exact hh
  port := hport
  nocred := by
    rintro (h1 | h1 | h1)
    · cases h1
    · injection h1 with e; exact hemp (Or.inl e)
    · exact hemp (Or.inr h1)
  special := fun hspec => ⟨rfl, (hsp hspec).1, h, rfl, (hsp hspec).2⟩
  file := by intro hf e; injection e with e; exact hloc hf e
  segs := fun _ => hsegs
  drive := hdrive
  nonopq := fun _ => ⟨rfl, fun h => by cases h⟩
  opq := fun h => by cases h
  query := hq
  frag := fun f hf => by cases hf

theorem not_file_of_not_special (scheme : Bytes) (hns : isSpecialScheme scheme = false) : scheme ≠ bFile := by
  intro e; subst e; simp [special_file] at hns

theorem canon_nohost (idna : Idna) (scheme : Bytes) (iso : Bool) (opath : Bytes) (path : List Bytes) (q : Option Bytes)
    (hs : schemeOk scheme = true) (hns : isSpecialScheme scheme = false)
    (hpath : iso = false → opath = [] ∧ path ≠ [] ∧ SegsOk false path)
    (hopq : iso = true → path = [] ∧ (∀ b ∈ opath, inC0 b = false ∧ b ≠ 0x3F ∧ b ≠ 0x23) ∧
      opath.head? ≠ some 0x2F ∧ opath.getLast? ≠ some 0x20)
    (hq : ∀ x, q = some x → ∀ b ∈ x, inQuery b = false) :
    Canon idna { scheme, isOpaque := iso, opath, path, query := q } where
  scheme := hs
  user := by simp
  pass := by simp
  host := fun h hh => by cases hh
  port := trivial
  nocred := fun _ => ⟨rfl, rfl, rfl⟩
  special := by
    intro hspec
    simp only [Url.isSpecial] at hspec
    rw [hns] at hspec; cases hspec
  file := fun hf => absurd hf (not_file_of_not_special scheme hns)
  segs := fun h => by simp only [Url.isSpecial, hns]; exact (hpath h).2.2
  drive := fun hf => absurd hf (not_file_of_not_special scheme hns)
  nonopq := fun h => ⟨(hpath h).1, fun _ => (hpath h).2.1⟩
  opq := fun h => ⟨rfl, hopq h⟩
  query := by
    intro x hx b hb'
    simp only [Url.isSpecial, hns, Bool.false_eq_true, ↓reduceIte]
    exact hq x hx b hb'
  frag := fun f hf => by cases hf

theorem userinfo_clean (s : Bytes) : ∀ b ∈ percentEncode inUserinfo s, inUserinfo b = false :=
  percentEncode_clean inUserinfo (fun b hb => (pctb_facts b hb).2.2.2.2.2.1) s

theorem credUser_clean (c : Option Bytes) : ∀ b ∈ credUser c, inUserinfo b = false := by
  cases c with
  | none => simp [credUser]
  | some c => exact userinfo_clean _
theorem credPass_clean (c : Option Bytes) : ∀ b ∈ credPass c, inUserinfo b = false := by
  cases c with
  | none => simp [credPass]
  | some c => exact userinfo_clean _

theorem canon_rebase (idna : Idna) (b : Url) (hb : Canon idna b) (P : List Bytes)
    (hP : SegsOk b.isSpecial P) (hPd : b.scheme = bFile → DriveOk P)
    (hne : (b.isSpecial = true → P ≠ []) ∧ (b.host = none → P ≠ []))
    (q : Option Bytes) (hq : ∀ x, q = some x → ∀ c ∈ x, (if b.isSpecial then inSpecialQuery c else inQuery c) = false) :
    Canon idna { scheme := b.scheme, username := b.username, password := b.password, host := b.host, port := b.port,
                 path := P, query := q } where
  scheme := hb.scheme
  user := hb.user
  pass := hb.pass
  host := hb.host
  port := hb.port
  nocred := hb.nocred
  special := fun hs => ⟨rfl, hne.1 hs, (hb.special hs).2.2⟩
  file := hb.file
  segs := fun _ => hP
  drive := hPd
  nonopq := fun _ => ⟨rfl, hne.2⟩
  opq := fun h => by cases h
  query := hq
  frag := fun f hf => by cases hf

theorem canon_file (idna : Idna) (h : Host) (hh : HostCanon idna true h) (hloc : h ≠ .domain bLocalhost)
    (P : List Bytes) (hP : SegsOk true P) (hPd : DriveOk P) (hne : P ≠ []) (q : Option Bytes)
    (hq : ∀ x, q = some x → ∀ c ∈ x, inSpecialQuery c = false) :
    Canon idna { scheme := bFile, host := some h, path := P, query := q } := by
  apply canon_mk_auth idna bFile [] [] h none P q schemeOk_file (by simp) (by simp) (by rw [special_file]; exact hh) trivial
  · intro _; exact ⟨rfl, rfl, rfl⟩
  · intro _; exact ⟨hne, fun hc => absurd rfl hc⟩
  · intro _; exact hloc
  · rw [special_file]; exact hP
  · intro _; exact hPd
  · intro x hx c hc'; simp only [special_file, ↓reduceIte]; exact hq x hx c hc'

theorem canon_file_from_base (idna : Idna) (b : Url) (hb : Canon idna b) (hf : b.scheme = bFile) (P : List Bytes)
    (hP : SegsOk true P) (hPd : DriveOk P) (hne : P ≠ []) (q : Option Bytes)
    (hq : ∀ x, q = some x → ∀ c ∈ x, inSpecialQuery c = false) :
    Canon idna { scheme := bFile, host := b.host, path := P, query := q } := by
  have hsp : b.isSpecial = true := by simp [Url.isSpecial, hf, special_file]
  obtain ⟨_, _, h, hh, _⟩ := hb.special hsp
  have hc := hb.host h hh
  rw [hsp] at hc
  rw [hh]
  exact canon_file idna h hc (fun e => hb.file hf (by rw [hh, e])) P hP hPd hne q hq

theorem file_base_facts (idna : Idna) (b : Url) (hb : Canon idna b) (hf : b.scheme = bFile) :
    b.isSpecial = true ∧ b.isOpaque = false ∧ SegsOk true b.path ∧ DriveOk b.path ∧ b.path ≠ [] ∧
    (∀ x, b.query = some x → ∀ c ∈ x, inSpecialQuery c = false) := by
  have hsp : b.isSpecial = true := by simp [Url.isSpecial, hf, special_file]
  obtain ⟨ho, hne, _⟩ := hb.special hsp
  have hs := hb.segs ho
  rw [hsp] at hs
  refine ⟨hsp, ho, hs, hb.drive hf, hne, ?_⟩
  intro x hx c hc
  have := hb.query x hx c hc
  simpa [hsp] using this

theorem opaquePathState_facts (rest : Bytes) (f : Bool) (hq : ∀ b ∈ rest, b ≠ 0x3F ∧ b ≠ 0x23)
    (hhd : rest.head? ≠ some 0x2F) (hl : f = false → rest.getLast? ≠ some 0x20) :
    (∀ b ∈ opaquePathState rest f, inC0 b = false ∧ b ≠ 0x3F ∧ b ≠ 0x23) ∧
    (opaquePathState rest f).head? ≠ some 0x2F ∧ (opaquePathState rest f).getLast? ≠ some 0x20 := by
  have hbytes : ∀ t : Bytes, (∀ b ∈ t, b ≠ 0x3F ∧ b ≠ 0x23) → ∀ b ∈ percentEncode inC0 t, inC0 b = false ∧ b ≠ 0x3F ∧ b ≠ 0x23 := by
    intro t ht b hb
    rcases mem_percentEncode inC0 t b hb with h | h
    · exact ⟨h.2, ht b h.1⟩
    · have := pctb_facts b h
      exact ⟨this.1, this.2.2.2.2.2.2.2.2.2.1, this.2.2.2.2.2.2.2.2.2.2⟩
  have hhead : ∀ t : Bytes, t.head? ≠ some 0x2F → (percentEncode inC0 t).head? ≠ some 0x2F := by
    intro t ht
    cases t with
    | nil => simp [percentEncode]
    | cons c r =>
      have hc : c ≠ 0x2F := by simpa using ht
      simp only [percentEncode, List.flatMap_cons]
      split
      · simp [pctByte]
      · simpa using hc
  unfold opaquePathState
  simp only
  split
  · rename_i hsp
    split
    · refine ⟨?_, ?_, by simp⟩
      · intro b hb
        rcases List.mem_append.mp hb with hb | hb
        · exact hbytes _ (fun x hx => hq x (List.dropLast_subset _ hx)) b hb
        · simp only [List.mem_cons, List.not_mem_nil, or_false] at hb
          rcases hb with rfl | rfl | rfl <;> decide
      · have hd : rest.dropLast.head? ≠ some 0x2F := by
          rw [List.head?_dropLast]
          split
          · exact hhd
          · simp
        have := hhead _ hd
        rw [List.head?_append]
        cases hx : (percentEncode inC0 rest.dropLast).head? with
        | none => simp
        | some x => rw [hx] at this; simpa using this
    · rename_i hf
      have hf' : f = false := by simpa using hf
      exact absurd hsp (hl hf')
  · rename_i hns
    exact ⟨hbytes _ hq, hhead _ hhd, percentEncode_last _ _ (by intro e; exact hns e)⟩

/-- a shape of `Parsed` is canonical when the base is and `pre` is what `parse` cuts off: no `?`, no `#`, and no
    space at the end unless a query or fragment follows -/
theorem parsed_canon {idna : Idna} {base : Option Url} {pre : Bytes} {followed : Bool} {u : Url}
    (hst : IdnaStable idna) (hb : ∀ b, base = some b → Canon idna b)
    (hq : ∀ b ∈ pre, b ≠ 0x3F ∧ b ≠ 0x23) (hl : followed = false → pre.getLast? ≠ some 0x20)
    (h : Parsed idna base pre followed u) : Canon idna u := by
  have filePath : ∀ P0 t, SegsOk true P0 → DriveOk P0 →
      SegsOk true (pathState bFile P0 t) ∧ DriveOk (pathState bFile P0 t) := by
    intro P0 t s0 d0
    have k := pathState_ok bFile P0 t (by rw [special_file]; exact s0) (fun _ => d0)
    rw [special_file] at k
    exact ⟨k.1, k.2 rfl⟩
  cases h with
  | @authority scheme _ rest a hs hnf ha =>
    obtain ⟨h1, h2, h3, h4, c, hu, hp⟩ := parseAuthority_ok idna scheme _ a (HostCanon idna (isSpecialScheme scheme))
      (fun s h hne hp => by simpa using hostParse_canon idna hst s _ h hne hp) trivial ha
    have hps := pathStartState_ok scheme rest
    apply canon_mk_auth idna scheme _ _ _ _ _ none (hs.elim id (fun ⟨b, hb', e⟩ => e ▸ (hb b hb').scheme))
      (hu ▸ credUser_clean c) (hp ▸ credPass_clean c) h1 h4
    · rintro (he | hf)
      · exact h3 he
      · exact absurd hf hnf
    · intro hsp; exact ⟨pathStartState_special_ne_nil _ _ hsp, fun _ => h2 hsp⟩
    · intro hf; exact absurd hf hnf
    · exact hps.1
    · exact hps.2
    · intro x hx; cases hx
  | @fileHost h t hh =>
    have k := filePath [] t (segsOk_nil _) driveOk_nil
    refine canon_file idna h ?_ ?_ _ k.1 k.2 (pathState_ne_nil _ _ _) none (fun x hx => by cases hx)
    · rcases hh with rfl | ⟨buf, hne, hp, _⟩
      · trivial
      · simpa using (hostParse_canon idna hst buf false h hne hp).1
    · rcases hh with rfl | ⟨_, _, _, hloc⟩
      · simp
      · exact hloc
  | @fileBase b P0 t hbe hf hP =>
    obtain ⟨_, _, hsegs, hdrive, _, _⟩ := file_base_facts idna b (hb b hbe) hf
    have k : SegsOk true P0 ∧ DriveOk P0 := by
      rcases hP with rfl | rfl | ⟨p, hp, hn, rfl⟩
      · exact ⟨segsOk_nil _, driveOk_nil⟩
      · exact ⟨shortenPath_segs _ _ _ hsegs, shortenPath_drive _ _ hdrive⟩
      · refine ⟨fun x hx => ?_, fun x hx _ => ?_⟩
        · simp only [List.mem_singleton] at hx; subst hx
          exact hsegs x (List.mem_of_mem_head? hp)
        · simp only [List.head?_cons, Option.some.injEq] at hx; subst hx; exact hn
    have k' := filePath P0 t k.1 k.2
    exact canon_file_from_base idna b (hb b hbe) hf _ k'.1 k'.2 (pathState_ne_nil _ _ _) none (fun x hx => by cases hx)
  | @fileKeep b q hbe hf hq' =>
    obtain ⟨_, _, hsegs, hdrive, hne, hqb⟩ := file_base_facts idna b (hb b hbe) hf
    apply canon_file_from_base idna b (hb b hbe) hf _ hsegs hdrive hne
    intro x hx
    rcases hq' with rfl | rfl
    · cases hx
    · exact hqb x hx
  | @relative b P0 t hbe ho hnf hP =>
    have hcb := hb b hbe
    have s0 : SegsOk b.isSpecial P0 := by
      rcases hP with rfl | rfl
      · exact segsOk_nil _
      · exact shortenPath_segs _ _ _ (hcb.segs ho)
    have k := pathState_ok b.scheme P0 t s0 (fun hf => absurd hf hnf)
    exact canon_rebase idna b hcb _ k.1 (fun hf => absurd hf hnf)
      ⟨fun _ => pathState_ne_nil _ _ _, fun _ => pathState_ne_nil _ _ _⟩ none (fun x hx => by cases hx)
  | @relativeKeep b hbe ho hnf =>
    have hcb := hb b hbe
    exact canon_rebase idna b hcb _ (hcb.segs ho) hcb.drive
      ⟨fun hs => (hcb.special hs).2.1, fun hn => (hcb.nonopq ho).2 hn⟩ _ hcb.query
  | @pathOnly scheme t hs hns =>
    have k := (pathState_ok scheme [] t (segsOk_nil _) (fun hf => absurd hf (not_file_of_not_special scheme hns))).1
    rw [hns] at k
    exact canon_nohost idna scheme false [] _ none hs hns (fun _ => ⟨rfl, pathState_ne_nil _ _ _, k⟩)
      (fun e => by cases e) (fun x hx => by cases hx)
  | @opaquePath scheme p rest hs hns hp hhd =>
    have hrq : ∀ b ∈ rest, b ≠ 0x3F ∧ b ≠ 0x23 := fun b hb' => hq b (by rw [hp]; simp [hb'])
    have hlast : followed = false → rest.getLast? ≠ some 0x20 := by
      intro hf
      by_cases hr : rest = []
      · subst hr; simp
      · rw [← suffix_last p rest hr, ← hp]; exact hl hf
    obtain ⟨f1, f2, f3⟩ := opaquePathState_facts rest followed hrq hhd hlast
    exact canon_nohost idna scheme true _ [] none hs hns (fun e => by cases e) (fun _ => ⟨rfl, f1, f2, f3⟩)
      (fun x hx => by cases hx)
  | @opaqueKeep b hbe hop =>
    have hrb := hb b hbe
    obtain ⟨_, _, f1, f2, f3⟩ := hrb.opq hop
    have hns : isSpecialScheme b.scheme = false := by
      cases hx : isSpecialScheme b.scheme with
      | false => rfl
      | true =>
        have := (hrb.special hx).1
        rw [hop] at this; cases this
    apply canon_nohost idna b.scheme true _ [] b.query hrb.scheme hns (fun e => by cases e) (fun _ => ⟨rfl, f1, f2, f3⟩)
    intro x hx c hc
    have := hrb.query x hx c hc
    simpa [Url.isSpecial, hns] using this

theorem stripTN_id (s : Bytes) (h : ∀ b ∈ s, isTabOrNewline b = false) : stripTN s = s := by
  unfold stripTN
  apply List.filter_eq_self.mpr
  intro b hb
  simp [h b hb]

theorem preprocess_last (input : Bytes) : ∀ l, (preprocess input).getLast? = some l → isC0OrSpace l = false := by
  intro l hl
  unfold preprocess at hl
  generalize hd : dropWhileEnd isC0OrSpace (input.dropWhile isC0OrSpace) = d at hl
  -- the last byte of `d` is not a C0 control or space
  have hdl : ∀ x, d.getLast? = some x → isC0OrSpace x = false := by
    intro x hx
    rw [← hd] at hx
    unfold dropWhileEnd at hx
    rw [List.getLast?_reverse] at hx
    have := List.head?_dropWhile_not isC0OrSpace (input.dropWhile isC0OrSpace).reverse
    rw [hx] at this
    simpa using this
  -- filtering keeps a last byte that passes the filter
  have hm := List.mem_of_getLast? hl
  have hlq : (!isTabOrNewline l) = true := (List.mem_filter.mp hm).2
  by_cases hne : d = []
  · subst hne; simp at hl
  · obtain ⟨init, x, rfl⟩ : ∃ init x, d = init ++ [x] := ⟨d.dropLast, d.getLast hne, (List.dropLast_concat_getLast hne).symm⟩
    have hx := hdl x (by simp)
    have hxq : (!isTabOrNewline x) = true := by
      have := c0sp_tn x hx
      simp [this]
    rw [List.filter_append] at hl
    simp only [List.filter_cons, hxq, ↓reduceIte, List.filter_nil, List.getLast?_append, List.getLast?_singleton,
      Option.some_or, Option.some.injEq] at hl
    subst hl; exact hx

theorem canon_set_query (idna : Idna) (u : Url) (hc : Canon idna u) (q : Bytes)
    (hq : ∀ b ∈ q, (if u.isSpecial then inSpecialQuery b else inQuery b) = false) :
    Canon idna { u with query := some q } :=
  ⟨hc.scheme, hc.user, hc.pass, hc.host, hc.port, hc.nocred, hc.special, hc.file, hc.segs, hc.drive, hc.nonopq, hc.opq,
   fun x hx => by injection hx with e; subst e; exact hq, hc.frag⟩

theorem canon_set_frag (idna : Idna) (u : Url) (hc : Canon idna u) (f : Bytes) (hf : ∀ b ∈ f, inFragment b = false) :
    Canon idna { u with fragment := some f } :=
  ⟨hc.scheme, hc.user, hc.pass, hc.host, hc.port, hc.nocred, hc.special, hc.file, hc.segs, hc.drive, hc.nonopq, hc.opq,
   hc.query, fun x hx => by injection hx with e; subst e; exact hf⟩

theorem encodeQuery_clean (sp : Bool) (q : Bytes) :
    ∀ b ∈ encodeQuery sp q, (if sp then inSpecialQuery b else inQuery b) = false := by
  unfold encodeQuery
  cases sp with
  | true => exact percentEncode_clean _ (fun b hb => (pctb_facts b hb).2.2.2.1) q
  | false => exact percentEncode_clean _ (fun b hb => (pctb_facts b hb).2.2.1) q

theorem parse_can (idna : Idna) (hst : IdnaStable idna) (input : Bytes) (base : Option Url) (u : Url)
    (hb : ∀ b, base = some b → Canon idna b)
    (h : parse idna input base = some u) : Canon idna u := by
  unfold parse at h
  have c1 := cutAt_fst 0x23 (preprocess input)
  have c2 := cutAt_fst 0x3F (cutAt 0x23 (preprocess input)).1
  simp only at h
  split at h; · cases h
  rename_i u0 hc0
  have h0 : Canon idna u0 := by
    apply parsed_canon hst hb _ _ (parseCore_parsed hc0)
    · intro b hb'
      refine ⟨fun e => c2.1 (e ▸ hb'), fun e => c1.1 (e ▸ c2.2.1 b hb')⟩
    · intro hqf
      simp only [Bool.or_eq_false_iff, Option.isSome_eq_false_iff, Option.isNone_iff_eq_none] at hqf
      have e1 := c2.2.2 hqf.1
      have e2 := c1.2.2 hqf.2
      rw [e1, e2]
      intro e
      have := preprocess_last input 0x20 e
      simp [isC0OrSpace] at this
  injection h with h; subst h
  have hfr := percentEncode_clean inFragment (fun b hb' => (pctb_facts b hb').2.1)
  generalize (cutAt 0x3F (cutAt 0x23 (preprocess input)).fst).snd = query
  generalize (cutAt 0x23 (preprocess input)).snd = frag
  cases query with
  | none =>
    cases frag with
    | none => exact h0
    | some f => exact canon_set_frag idna u0 h0 _ (hfr f)
  | some q =>
    have h1 := canon_set_query idna u0 h0 _ (encodeQuery_clean u0.isSpecial q)
    cases frag with
    | none => exact h1
    | some f => exact canon_set_frag idna _ h1 _ (hfr f)

end AdaVerif.Lemmas.PC
