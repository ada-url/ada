import AdaVerif.Model.SearchParams
/-
ada::url_search_params as a list of pairs: what `set`, `remove`, `append`, `get`, `has` do to `getAll`, and the
comparator of `sort()` as the lexicographic order of the code-unit streams its decoder yields.
-/
namespace AdaVerif.Lemmas
open AdaVerif AdaVerif.Model AdaVerif.Model.USP

theorem set_absent (l : USP) (k v : Bytes) (h : USP.has l k = false) : USP.set l k v = l ++ [(k, v)] := by
  induction l with
  | nil => rfl
  | cons p rest ih =>
    simp only [USP.has, List.any_cons, Bool.or_eq_false_iff] at h
    simp only [USP.set, h.1, Bool.false_eq_true, ↓reduceIte, List.cons_append]
    rw [ih (by simpa [USP.has] using h.2)]

theorem getAll_set (l : USP) (k v : Bytes) : USP.getAll (USP.set l k v) k = [v] := by
  induction l with
  | nil => simp [USP.set, USP.getAll]
  | cons p rest ih =>
    simp only [USP.set]
    split
    · rename_i hp
      simp [USP.getAll, hp, List.filter_filter]
    · rename_i hp
      simp only [USP.getAll, List.filter_cons, hp, Bool.false_eq_true, ↓reduceIte] at ih ⊢
      exact ih

theorem others_set (l : USP) (k v : Bytes) :
    (USP.set l k v).filter (fun p => !(p.1 == k)) = l.filter (fun p => !(p.1 == k)) := by
  induction l with
  | nil => simp [USP.set]
  | cons p rest ih =>
    simp only [USP.set]
    split
    · rename_i hp
      simp [List.filter_cons, hp, List.filter_filter]
    · rename_i hp
      simp [List.filter_cons, hp, ih]

theorem position_set (l : USP) (k v : Bytes) :
    (USP.set l k v).takeWhile (fun p => !(p.1 == k)) = l.takeWhile (fun p => !(p.1 == k)) := by
  induction l with
  | nil => simp [USP.set]
  | cons p rest ih =>
    simp only [USP.set]
    split
    · rename_i hp; simp [List.takeWhile_cons, hp]
    · rename_i hp; simp [List.takeWhile_cons, hp, ih]

theorem getAll_remove (l : USP) (k : Bytes) : USP.getAll (USP.remove l k) k = [] := by
  simp [USP.getAll, USP.remove, List.filter_filter]

theorem others_remove (l : USP) (k k' : Bytes) (h : (k' == k) = false) :
    USP.getAll (USP.remove l k) k' = USP.getAll l k' := by
  simp only [USP.getAll, USP.remove, List.filter_filter]
  congr 1
  apply List.filter_congr
  intro a _
  cases ha : a.1 == k'
  · rfl
  · rw [beq_iff_eq] at ha; simp [ha, h]

theorem getAll_append (l : USP) (k v : Bytes) : USP.getAll (USP.append l k v) k = USP.getAll l k ++ [v] := by
  simp [USP.getAll, USP.append, List.filter_append]

theorem has_iff_getAll (l : USP) (k : Bytes) : USP.has l k = !(USP.getAll l k).isEmpty := by
  induction l with
  | nil => rfl
  | cons p rest ih =>
    simp only [USP.has, USP.getAll, List.any_cons, List.filter_cons] at ih ⊢
    split <;> simp_all

theorem get_eq_head_getAll (l : USP) (k : Bytes) : USP.get l k = (USP.getAll l k).head? := by
  simp [USP.get, USP.getAll]

/-- the stream of UTF-16 code units the decoder produces from a cursor -/
def unitsFuel : Nat → Cursor → List Nat
  | 0, _ => []
  | f + 1, c => match nextUnit c with
    | none => []
    | some (u, c') => u :: unitsFuel f c'

def lexLt : List Nat → List Nat → Bool
  | [], [] => false
  | [], _ :: _ => true
  | _ :: _, [] => false
  | a :: as, b :: bs => if a != b then decide (a < b) else lexLt as bs

/-- a cursor's measure: every decoder step strictly decreases it -/
def cmeasure (c : Cursor) : Nat := 2 * c.1.length + (if c.2 != 0 then 1 else 0)

theorem cmeasure_le (r : Bytes) (lo : Nat) : cmeasure (r, lo) ≤ 2 * r.length + 1 := by
  simp only [cmeasure]; split <;> omega

theorem nextUnit_decreases (c : Cursor) (u : Nat) (c' : Cursor) (h : nextUnit c = some (u, c')) :
    cmeasure c' < cmeasure c := by
  revert h
  fun_cases nextUnit c
  case case1 hl =>
    intro h; injection h with h; injection h with _ h; subst h
    simp [cmeasure, hl]
  case case2 => intro h; cases h
  -- every other branch returns a proper suffix of the bytes
  all_goals
    intro h; injection h with h; injection h with _ h; subst h
    refine Nat.lt_of_le_of_lt (cmeasure_le _ _) (Nat.lt_of_lt_of_le ?_ (Nat.le_add_right _ _))
    simp only [List.length_cons]
    omega

/-- the code-unit stream of a cursor (well-founded on the decoder measure) -/
def units (c : Cursor) : List Nat :=
  match h : nextUnit c with
  | none => []
  | some (u, c') => u :: units c'
termination_by cmeasure c
decreasing_by exact nextUnit_decreases c u c' h

theorem units_none (c : Cursor) (h : nextUnit c = none) : units c = [] := by
  rw [units]; split
  · rfl
  · rename_i h'; rw [h] at h'; cases h'

theorem units_some (c : Cursor) (u : Nat) (c' : Cursor) (h : nextUnit c = some (u, c')) :
    units c = u :: units c' := by
  rw [units]; split
  · rename_i h'; rw [h] at h'; cases h'
  · rename_i u2 c2 h'; rw [h] at h'; injection h' with h'; injection h' with h1 h2; subst h1; subst h2; rfl

theorem cmpLoop_eq (fuel : Nat) (a b : Cursor) (hf : cmeasure a < fuel) :
    cmpLoop fuel a b = lexLt (units a) (units b) := by
  induction fuel generalizing a b with
  | zero => omega
  | succ f ih =>
    unfold cmpLoop
    cases ha : nextUnit a with
    | none =>
      rw [units_none a ha]
      cases hb : nextUnit b with
      | none => rw [units_none b hb]; rfl
      | some p => obtain ⟨u, b'⟩ := p; rw [units_some b u b' hb]; rfl
    | some p =>
      obtain ⟨u1, a'⟩ := p
      rw [units_some a u1 a' ha]
      cases hb : nextUnit b with
      | none => rw [units_none b hb]; rfl
      | some q =>
        obtain ⟨u2, b'⟩ := q
        rw [units_some b u2 b' hb]
        simp only [lexLt]
        split
        · rfl
        · exact ih a' b' (by have := nextUnit_decreases a u1 a' ha; omega)

theorem keyLess_eq (x y : Pair) : USP.keyLess x y = lexLt (units (x.1, 0)) (units (y.1, 0)) := by
  unfold USP.keyLess
  apply cmpLoop_eq
  simp [cmeasure]; omega

/-- `lexLt` decides the lexicographic order of core, whose laws are inherited -/
theorem lexLt_iff : ∀ a b : List Nat, lexLt a b = true ↔ a < b
  | [], [] => by simp [lexLt]
  | [], _ :: _ => by simp [lexLt]
  | _ :: _, [] => by simp [lexLt]
  | x :: xs, y :: ys => by
    rw [lexLt, List.cons_lt_cons_iff, ← lexLt_iff xs ys]
    by_cases h : x = y
    · simp [h]
    · simp [h]

theorem keyLess_iff (x y : Pair) : USP.keyLess x y = true ↔ units (x.1, 0) < units (y.1, 0) := by
  rw [keyLess_eq, lexLt_iff]

theorem keyLess_irrefl (x : Pair) : USP.keyLess x x = false :=
  Bool.eq_false_iff.mpr fun h => List.lt_irrefl _ ((keyLess_iff x x).mp h)

theorem keyLess_trans (x y z : Pair) (h1 : USP.keyLess x y = true) (h2 : USP.keyLess y z = true) :
    USP.keyLess x z = true :=
  (keyLess_iff x z).mpr (List.lt_trans ((keyLess_iff x y).mp h1) ((keyLess_iff y z).mp h2))

def keyLe (x y : Pair) : Bool := !USP.keyLess y x

theorem keyLe_iff (x y : Pair) : keyLe x y = true ↔ units (x.1, 0) ≤ units (y.1, 0) := by
  rw [keyLe, Bool.not_eq_true', ← Bool.not_eq_true, keyLess_iff, List.not_lt]

theorem keyLe_total (x y : Pair) : (keyLe x y || keyLe y x) = true := by
  rw [Bool.or_eq_true, keyLe_iff, keyLe_iff]
  exact List.le_total _ _

theorem keyLe_trans (x y z : Pair) (h1 : keyLe x y = true) (h2 : keyLe y z = true) : keyLe x z = true := by
  rw [keyLe_iff] at *
  exact List.le_trans h1 h2

end AdaVerif.Lemmas
