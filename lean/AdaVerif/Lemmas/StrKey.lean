/-
Deciding equality of strings through one number per string.  The kernel compares two `String`s
byte by byte through `UInt8.decEq`, and a sweep over a table of names pays that for every pair;
a `Nat` key is computed once per string and compared by GMP.
-/
namespace AdaVerif.Lemmas

/-- the bytes as base-256 digits (least significant first) under a leading 1 -/
def digits (l : List UInt8) : Nat := l.foldr (fun b a => a * 256 + b.toNat) 1

theorem digits_pos (l : List UInt8) : 0 < digits l := by
  induction l with
  | nil => decide
  | cons b t ih => simp only [digits, List.foldr_cons] at ih ⊢; omega

theorem digits_inj : ∀ {l₁ l₂ : List UInt8}, digits l₁ = digits l₂ → l₁ = l₂
  | [], [], _ => rfl
  | [], b :: t, h => by
    have := digits_pos t
    simp only [digits, List.foldr_cons, List.foldr_nil] at h this
    omega
  | b :: t, [], h => by
    have := digits_pos t
    simp only [digits, List.foldr_cons, List.foldr_nil] at h this
    omega
  | a :: s, b :: t, h => by
    have ha := a.toNat_lt
    have hb := b.toNat_lt
    simp only [digits, List.foldr_cons] at h
    have h1 : digits s = digits t := by simp only [digits]; omega
    have h2 : a.toNat = b.toNat := by omega
    rw [digits_inj h1, UInt8.toNat_inj.mp h2]

def strKey (s : String) : Nat := digits s.toByteArray.data.toList

theorem strKey_inj {a b : String} : strKey a = strKey b ↔ a = b := by
  constructor
  · intro h
    have := digits_inj h
    rw [Array.toList_inj] at this
    exact String.toByteArray_inj.mp (ByteArray.ext this)
  · intro h; rw [h]

/-- to be made a local instance where a table of names is swept by `decide` -/
@[instance_reducible] def strDecEq : DecidableEq String := fun _ _ => decidable_of_iff _ strKey_inj

end AdaVerif.Lemmas
