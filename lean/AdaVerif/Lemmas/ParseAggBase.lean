import AdaVerif.Lemmas.ParseAgg
import AdaVerif.Lemmas.ParseBase
import AdaVerif.Lemmas.HostCanon
import AdaVerif.Lemmas.AggSetPathname
/-
`parse_url_impl<ada::url_aggregator>(input, &base)` (Model/ParseAgg.lean, `machineBA`) stays in step with the `ada::url`
instantiation (`machineB`) when the base object is the layout of a record with the record invariants (`BaseRec`, which every
parsed record has: `parsed_baseRec`).  The routes differ in what they take over from the base before PATH runs; PATH
itself is one lemma (`pathFragA_from`) for whatever path the object starts with.
-/
namespace AdaVerif.Lemmas.PAB
open AdaVerif AdaVerif.Spec AdaVerif.Lemmas AdaVerif.Lemmas.AggL AdaVerif.Lemmas.PA AdaVerif.Model AdaVerif.Model.Agg
  AdaVerif.Model.ParseSpecial AdaVerif.Model.ParseAgg AdaVerif.Model.UrlRec AdaVerif.Model.HostParse

/-- the object between `update_base_authority` and `update_host_to_base_host`: "//", the credentials, and no '@' yet -/
def A1 (s u p : Bytes) : Agg :=
  { buf := s ++ ([0x2F, 0x2F] ++ (u ++ passS p)), pe := s.length, ue := s.length + 2 + u.length,
    hs := s.length + 2 + u.length + (passS p).length, he := s.length + 2 + u.length + (passS p).length,
    ps := s.length + 2 + u.length + (passS p).length, port := none, ss := none, hh := none, opq := false }

def bare (s : Bytes) : Agg :=
  { buf := s, pe := s.length, ue := s.length, hs := s.length, he := s.length, port := none, ps := s.length, ss := none, hh := none,
    opq := false }

theorem layout_LA_bare (s : Bytes) : layout (LA s false [] []) = bare s := by
  simp [layout, LA, bare, authS, passS, atS, portS, ddS, queryS, fragS]

theorem updateBaseAuthority_auth (s : Bytes) (lb : L) (hs : lb.scheme = s) (ha : lb.auth = true) (hc : (0x3A : UInt8) ∉ lb.user) :
    updateBaseAuthority (bare s) (layout lb).buf (layout lb).pe (layout lb).hs = A1 s lb.user lb.pass := by
  unfold updateBaseAuthority
  have hbhs : (layout lb).hs = s.length + 2 + lb.user.length + (passS lb.pass).length := by
    rw [layout_hs, ha, hs]; rfl
  rw [auth_slice lb ha, hbhs]
  -- the text behind "//": `user`, or `user ":" pass`; either way the buffer ends at the base's host_start, so no '@' is written
  have hps : passS lb.pass = Lemmas.Cut.sfx 0x3A (if lb.pass = [] then none else some lb.pass) := by
    split
    · rename_i hp; rw [hp]; rfl
    · rename_i hp; exact passS_head hp
  have hfc : findColon (lb.user ++ passS lb.pass) = if lb.pass = [] then none else some lb.user.length := by
    rw [hps, PS.findColon_sfx _ _ hc]
    split <;> rfl
  simp only [bare, List.take_left' (show ([0x2F, 0x2F] : Bytes).length = 2 from rfl), beq_self_eq_true, ↓reduceIte,
    List.drop_left' (show ([0x2F, 0x2F] : Bytes).length = 2 from rfl), Nat.sub_self, Nat.zero_add, hfc]
  have hser : serase s s.length 0 = s := by simp [serase]
  rw [hser, sinsert_end s _ _ rfl]
  by_cases hp : lb.pass = []
  · simp only [hp, ↓reduceIte, passS_nil, List.append_nil, List.length_nil, Nat.add_zero]
    split
    · rw [sinsert_end (s ++ [0x2F, 0x2F]) lb.user _ (by simp)]
      have hlen : ¬ (s ++ [0x2F, 0x2F] ++ lb.user).length > s.length + 2 + lb.user.length := by simp; omega
      simp only [hlen, decide_false, Bool.false_and, Bool.false_eq_true, ↓reduceIte]
      simp [A1, passS, shiftO]
      omega
    · rename_i hu
      have : lb.user = [] := by simpa using hu
      simp [A1, this, passS, shiftO]
  · have hpp : passS lb.pass = 0x3A :: lb.pass := passS_head hp
    have hd : (lb.user ++ 0x3A :: lb.pass).drop (lb.user.length + 1) = lb.pass := by
      rw [show lb.user ++ 0x3A :: lb.pass = (lb.user ++ [0x3A]) ++ lb.pass by simp]
      exact List.drop_left' (by simp)
    simp only [hp, ↓reduceIte, hpp, List.take_left' rfl, hd]
    rw [sinsert_end (s ++ [0x2F, 0x2F]) lb.user _ (by simp), sinsert_end (s ++ [0x2F, 0x2F] ++ lb.user) [0x3A] _ (by simp; omega),
      sinsert_end (s ++ [0x2F, 0x2F] ++ lb.user ++ [0x3A]) lb.pass _ (by simp; omega)]
    have hlen : ¬ (s ++ [0x2F, 0x2F] ++ lb.user ++ [0x3A] ++ lb.pass).length > s.length + 2 + lb.user.length + (0x3A :: lb.pass).length := by
      simp; omega
    simp only [hlen, decide_false, Bool.false_and, Bool.false_eq_true, ↓reduceIte]
    simp [A1, hpp, shiftO]
    omega

theorem hasAuthority_A1 (s u p : Bytes) : hasAuthority (A1 s u p) = true := by
  unfold hasAuthority
  have c : Cut (A1 s u p).buf (A1 s u p).pe s ([0x2F, 0x2F] ++ (u ++ passS p)) := ⟨rfl, rfl⟩
  have : (A1 s u p).pe + 2 ≤ (A1 s u p).hs := by simp only [A1]; omega
  rw [c.at_, c.at_add 1]
  simp [this]

theorem A1_nocred (s : Bytes) : A1 s [] [] = layout (LA s true [] []) := by
  simp [A1, layout, LA, passS, atS, authS, portS, ddS, queryS, fragS]

/-- `update_base_hostname` right after `update_base_authority`: the '@' arrives with the host -/
theorem hostname_A1 (s u p h : Bytes) : updateBaseHostname (A1 s u p) h = layout (LH s u p h none) := by
  by_cases hc : u = [] ∧ p = []
  · obtain ⟨rfl, rfl⟩ := hc
    rw [A1_nocred]
    exact hostname_LA s true [] [] h (fun h => nomatch h)
  · unfold updateBaseHostname addAuthoritySlashes
    simp only [hasAuthority_A1, ↓reduceIte]
    have hrr : replaceAndResize (A1 s u p).buf (A1 s u p).hs (A1 s u p).he h = ((A1 s u p).buf ++ h, (h.length : Int)) := by
      unfold replaceAndResize
      simp only [A1, Nat.sub_self, beq_self_eq_true, ↓reduceIte]
      rw [sinsert_end _ _ _ (by simp; omega)]
      simp
    have hcred : (A1 s u p).pe + 2 < (A1 s u p).hs := by
      simp only [A1]
      have := cred_len hc
      omega
    rw [hrr]
    simp only [hcred, ↓reduceIte]
    have hat : atS u p = [0x40] := atS_of_cred hc
    rw [(Cut.mk rfl (by simp [A1]; omega) : Cut ((A1 s u p).buf ++ h) (A1 s u p).hs (A1 s u p).buf h).sinsert]
    apply agg_ext <;> simp [A1, layout, LH, hat, authS, portS, ddS, queryS, fragS, shift, shiftO, List.append_assoc] <;> omega

/-- what is assumed of the record the base object holds (all of it follows from the record invariants of C19 for a
    record that came out of the parser) -/
structure BaseRec (r : Rec) : Prop where
  hostless : r.host = none → r.username = [] ∧ r.password = [] ∧ r.port = none
  emptyHost : r.host = some [] → r.username = [] ∧ r.password = [] ∧ r.port = none
  specialHost : getSchemeType r.scheme ≠ 1 → r.host.isSome = true
  noColon : (0x3A : UInt8) ∉ r.username
  noAt : ∀ h, r.host = some h → h.headD 0 ≠ 0x40
  special : r.special = (getSchemeType r.scheme != 1)
  pathSegs : r.opq = false → ∃ segs, r.path = FP.pathText segs ∧ PP.NoSlash segs
  specialNotOpaque : getSchemeType r.scheme ≠ 1 → r.opq = false
  fileNoCred : getSchemeType r.scheme = 6 → r.username = [] ∧ r.password = [] ∧ r.port = none

theorem toL_noAuthNoCred (r : Rec) : NoAuthNoCred (toL r) := by
  intro h
  have : r.host = none := by
    cases hh : r.host with
    | none => rfl
    | some x => simp [toL, hh] at h
  simp [toL, this]

theorem baseType_layout (r : Rec) : baseType (layout (toL r)) = getSchemeType r.scheme := by
  unfold baseType
  rw [Props.C07.getProtocol_layout]
  simp [toL]

theorem toL_no_at (r : Rec) (hb : BaseRec r) : (toL r).host.headD 0 ≠ 0x40 := by
  cases hh : r.host with
  | none => simp [toL, hh]
  | some h => simpa [toL, hh] using hb.noAt h hh

theorem getHostname_toL (r : Rec) (hb : BaseRec r) : getHostname (layout (toL r)) = r.host.getD [] :=
  getHostname_layout _ (fun _ _ => toL_no_at r hb)

/-- `url_aggregator::get_host()` on the layout of an `ada::url` object is `url::get_host()` -/
theorem getHost_toL (r : Rec) (hb : BaseRec r) : getHost (layout (toL r)) = getHostR r := by
  rw [getHost_layout _ (fun _ _ => toL_no_at r hb) (fun hne => by cases hh : r.host <;> simp_all [toL])]
  unfold getHostR
  cases hh : r.host with
  | none => simp [toL, hh]
  | some h =>
    by_cases hemp : h = []
    · -- an empty host: no credentials, no port, nothing to return
      subst hemp
      simp [toL, hh, (hb.emptyHost hh).2.2]
    · cases hp : r.port <;> simp [toL, hh, hp, hemp, portS]

theorem getProtocol_toL (r : Rec) : getProtocol (layout (toL r)) = r.scheme ++ [0x3A] := by
  rw [Props.C07.getProtocol_layout]; rfl

theorem copyScheme_empty (r : Rec) : copyScheme emptyAgg (layout (toL r)) = bare (r.scheme ++ [0x3A]) := by
  unfold copyScheme
  rw [getProtocol_toL]
  have hpe : (layout (toL r)).pe = (r.scheme ++ [0x3A]).length := by simp [layout, toL]
  rw [hpe]
  have hd : (((r.scheme ++ [0x3A]).length : Int) - ((emptyAgg.pe : Nat) : Int) == 0) = false := by
    simp [emptyAgg]; omega
  simp only [hd, Bool.false_eq_true, ↓reduceIte]
  simp [emptyAgg, bare, serase, sinsert, shift, shiftO]

theorem copyScheme_bare (r : Rec) : copyScheme (bare (r.scheme ++ [0x3A])) (layout (toL r)) = bare (r.scheme ++ [0x3A]) := by
  unfold copyScheme
  rw [getProtocol_toL]
  have hpe : (layout (toL r)).pe = (r.scheme ++ [0x3A]).length := by simp [layout, toL]
  rw [hpe]
  simp [bare, serase, sinsert]

/-- the content right after "username, password, host and port of the base" -/
def baseAuthority (r : Rec) : L := { toL r with dashdot := false, path := [], query := none, frag := none, opq := false }

theorem updateBaseAuthority_noauth (s : Bytes) (lb : L) (hs : lb.scheme = s) (ha : lb.auth = false) (hna : NoAuthNoCred lb) :
    updateBaseAuthority (bare s) (layout lb).buf (layout lb).pe (layout lb).hs = bare s := by
  obtain ⟨hu, hp⟩ := hna ha
  have hhs : (layout lb).hs = (layout lb).pe := by simp [layout, ha, hu, hp, authS, passS]
  unfold updateBaseAuthority
  rw [hhs]
  have hsl : slice (layout lb).buf (layout lb).pe (layout lb).pe = [] := by simp [slice]
  rw [hsl]
  have hpe : (layout lb).pe = s.length := by simp [layout, hs]
  simp [bare, findColon, serase, hpe, shiftO]

theorem copyPort_toL (l : L) (r : Rec) (hd : l.dashdot = false) :
    copyPort (layout l) (layout (toL r)) = layout { l with port := (toL r).port } := by
  unfold copyPort
  cases hp : (toL r).port with
  | none =>
    have : (layout (toL r)).port = none := by simp [layout, hp]
    rw [this]
    exact clearPort_layout l hd
  | some pd =>
    have hbp : (layout (toL r)).port = some pd.1 := by simp [layout, hp]
    have hpd : pd = (pd.1, dec16 pd.1) := by
      simp only [toL] at hp
      split at hp
      · cases hr : r.port <;> simp [hr] at hp
        rw [← hp]
      · cases hp
    rw [hbp, hpd]
    exact updateBasePort_layout l _ _ hd

theorem hostCopy_eq (r : Rec) (hb : BaseRec r) :
    updateHostToBaseHost (getSchemeType r.scheme != 1) (getSchemeType r.scheme == 6)
        (updateBaseAuthority (bare (r.scheme ++ [0x3A])) (layout (toL r)).buf (layout (toL r)).pe (layout (toL r)).hs) (r.host.getD []) =
      layout { baseAuthority r with port := none } := by
  cases hh : r.host with
  | none =>
    -- no host: the scheme is not special, and nothing at all is written
    have hty : getSchemeType r.scheme = 1 := by
      cases hd : decide (getSchemeType r.scheme = 1) with
      | true => simpa using hd
      | false => have := hb.specialHost (by simpa using hd); rw [hh] at this; cases this
    have hLC : ({ baseAuthority r with port := none } : L) = LA (r.scheme ++ [0x3A]) false [] [] := by simp [baseAuthority, LA, toL, hh]
    rw [updateBaseAuthority_noauth (r.scheme ++ [0x3A]) (toL r) rfl (by simp [toL, hh]) (toL_noAuthNoCred r), hty, hLC, layout_LA_bare]
    simp [updateHostToBaseHost, hasHostname, hasAuthority, hasDashDot, bare]
    omega
  | some h =>
    rw [updateBaseAuthority_auth (r.scheme ++ [0x3A]) (toL r) rfl (by simp [toL, hh]) (by simp [toL, hh]; exact hb.noColon), Option.getD_some]
    have hLC : ({ baseAuthority r with port := none } : L) = LH (r.scheme ++ [0x3A]) (toL r).user (toL r).pass h none := by simp [baseAuthority, LH, toL, hh]
    rw [hLC]
    unfold updateHostToBaseHost
    split
    · -- an empty host behind a scheme that is not special: `clear_hostname`
      rename_i hcond
      have hemp : h = [] := by
        simp only [Bool.and_eq_true] at hcond; simpa using hcond.1.2
      subst hemp
      obtain ⟨hu, hp, _⟩ := hb.emptyHost hh
      have hu' : (toL r).user = [] := by simp [toL, hh, hu]
      have hp' : (toL r).pass = [] := by simp [toL, hh, hp]
      rw [hu', hp']
      have h1 : hasHostname (layout (LA (r.scheme ++ [0x3A]) true [] [])) = true := by
        unfold hasHostname
        rw [hasAuthority_layout _ (by intro h; cases h)]; rfl
      rw [A1_nocred]
      simp only [h1, ↓reduceIte]
      rcases clearHostname_layout (LA (r.scheme ++ [0x3A]) true [] []) (by intro h; cases h) (LA_tail _ _ _ _) with e | e
      · rw [e]; rfl
      · cases e
    · exact hostname_A1 _ _ _ h

theorem copyAuthority_eq (r : Rec) (hb : BaseRec r) :
    copyAuthority (bare (r.scheme ++ [0x3A])) (layout (toL r)) = layout (baseAuthority r) := by
  unfold copyAuthority baseSpecial
  simp only
  rw [getHostname_toL r hb, baseType_layout, hostCopy_eq r hb, copyPort_toL _ r rfl]
  rfl

def qOr (lbq lq : Option Bytes) : Option Bytes :=
  match lbq with
  | some q => some q
  | none => lq

theorem searchEnd_layout (l : L) : searchEnd (layout l) = (layout l).ps + l.path.length + (queryS l.query).length := by
  unfold searchEnd
  rw [layout_hh]
  cases hf : l.frag with
  | some f => rfl
  | none =>
    have c := cut_hh l
    rw [hf] at c
    simp only [Option.isSome_none, Bool.false_eq_true, ↓reduceIte, c.idx, c.buf, fragS, List.append_nil]

theorem qOr_none (q : Option Bytes) : qOr q none = q := by cases q <;> rfl

theorem copySearch_eq (l lb : L) : copySearch (layout l) (layout lb) = layout { l with query := qOr lb.query l.query } := by
  unfold copySearch
  rw [layout_ss]
  cases hq : lb.query with
  | none => rfl
  | some q =>
    have c : Cut (layout lb).buf ((layout lb).ps + lb.path.length + 1) (headS lb ++ lb.path ++ [0x3F]) (q ++ fragS lb.frag) := by
      have c := cut_ss lb
      rw [hq] at c
      exact c.next (M := [0x3F]) rfl
    simp only [Option.isSome_some, ↓reduceIte]
    rw [c.slice (by rw [searchEnd_layout, hq]; simp [queryS]; omega), updateBaseSearch_layout]
    rfl

theorem newDashDot_ok (l : L) (P : Bytes) (hd : DashDotOk l) :
    newDashDot l P = (startsWithSlashSlash P && (!l.opq && !l.auth)) := by
  unfold newDashDot
  cases hs : startsWithSlashSlash P
  · simp
  · cases hdd : l.dashdot
    · simp
    · obtain ⟨ha, ho, _⟩ := hd hdd
      simp [ha, ho]

theorem newDashDot_dashDotOk (l : L) (P : Bytes) (hdd : DashDotOk l) (hp : l.auth = false → l.port = none) :
    DashDotOk { l with dashdot := newDashDot l P, path := P } := by
  intro hd
  have hd' : newDashDot l P = true := hd
  rw [newDashDot_ok _ _ hdd] at hd'
  simp only [Bool.and_eq_true, Bool.not_eq_true'] at hd'
  exact ⟨hd'.2.2, hd'.2.1, hp hd'.2.2⟩

/-- PATH and QUERY when the object already has a path (taken over from the base and shortened) -/
theorem pathQA_nonempty (sp : Bool) (scheme : Bytes) (ty : Nat) (hty : PP.TyOf scheme ty) (l : L) (segs : List Bytes)
    (hpath : l.path = FP.pathText segs) (hne : l.path ≠ []) (hn : PP.NoSlash segs) (t : Bytes) (hna : NoAuthNoCred l) (hdd : DashDotOk l) :
    pathQA sp ty (layout l) t =
      layout { l with dashdot := newDashDot l (pathQFrom sp ty l.path t).1, path := (pathQFrom sp ty l.path t).1,
                      query := match (pathQFrom sp ty l.path t).2 with | some q => some q | none => l.query } := by
  unfold pathQA pathQFrom
  simp only
  generalize t.takeWhile (· != 0x3F) = view
  have hnat : isAtPath (layout l) = false := by
    cases h : isAtPath (layout l) with
    | false => rfl
    | true => exact absurd (Props.C07.isAtPath_layout l h).1 hne
  have hcp : consumePreparedPath (layout l) ty view =
      layout { l with dashdot := newDashDot l (PathPrepared.parsePreparedPath view ty l.path),
                      path := PathPrepared.parsePreparedPath view ty l.path } := by
    rw [Props.C07.consume_prepared_path_layout l ty view hna hdd, hnat]
    simp only [Bool.and_false, Bool.false_eq_true, ↓reduceIte]
    have : PathPrepared.pathLoops view ty l.path = PathPrepared.parsePreparedPath view ty l.path := by
      unfold PathPrepared.parsePreparedPath
      split
      · rename_i htr
        rw [hpath, PP.pathLoops_eq scheme ty hty view segs hn, PP.trivial_sound scheme ty hty view segs htr]
      · rfl
    rw [this]
  rw [hcp]
  by_cases hlt : view.length < t.length
  · simp only [hlt, ↓reduceIte, Option.map_some, updateBaseSearch_layout]
    rfl
  · simp only [hlt, ↓reduceIte, Option.map_none]

/-- PATH, QUERY and the fragment, whatever path the object starts PATH with (none, or one taken from the base) -/
theorem pathFragA_from (sp : Bool) (scheme : Bytes) (ty : Nat) (hty : PP.TyOf scheme ty) (l : L) (segs : List Bytes)
    (hpath : l.path = FP.pathText segs) (hn : PP.NoSlash segs) (hna : NoAuthNoCred l) (hdd : DashDotOk l)
    (hq : l.query = none) (hf : l.frag = none) (ho : l.opq = false) (frag : Option Bytes) (t : Bytes)
    (hh : l.path = [] → l.dashdot = false ∧ (l.auth = true ∨ t.head? ≠ some 0x2F)) :
    withFragment (pathQA sp ty (layout l) t) frag =
      layout { l with dashdot := !l.auth && startsWithSlashSlash (pathQFrom sp ty l.path t).1, path := (pathQFrom sp ty l.path t).1,
                      query := (pathQFrom sp ty l.path t).2, frag := encFrag frag } := by
  by_cases hne : l.path = []
  · rw [pathQA_layout sp ty l t hna (hh hne).1 hne hq hf ho (hh hne).2, withFragment_layout _ _ (by exact hf), hne]
    rfl
  · rw [pathQA_nonempty sp scheme ty hty l segs hpath hne hn t hna hdd, withFragment_layout _ _ (by exact hf), newDashDot_ok _ _ hdd, ho, hq]
    congr 2
    · cases startsWithSlashSlash (pathQFrom sp ty l.path t).1 <;> cases l.auth <;> rfl
    · cases (pathQFrom sp ty l.path t).2 <;> rfl

theorem shortenWriteBack (l : L) (short : Bytes) (hna : NoAuthNoCred l) (hdd : DashDotOk l) (hok : l.dashdot = newDashDot l l.path) :
    (if (short != l.path) = true then updateBasePathname (layout l) short else layout l) =
      layout { l with dashdot := newDashDot l short, path := short } := by
  split
  · exact updateBasePathname_layout _ short hna hdd
  · rename_i hne
    have he : short = l.path := by simpa using hne
    rw [he, ← hok]

/-- "shorten url's path" on the view of the pathname with its conditional write-back, then PATH on the whole text: the
    route of RELATIVE_SCHEME and of FILE that keeps the base's path -/
theorem shortenPathA_eq (sp : Bool) (scheme : Bytes) (ty : Nat) (hty : PP.TyOf scheme ty) (l : L) (segs : List Bytes)
    (hpath : l.path = FP.pathText segs) (hns : PP.NoSlash segs) (hna : NoAuthNoCred l) (hdd : DashDotOk l)
    (hg : l.dashdot = newDashDot l l.path) (hp : l.auth = false → l.port = none)
    (hq : l.query = none) (hf : l.frag = none) (ho : l.opq = false) (frag : Option Bytes) (t : Bytes)
    (hh : l.auth = true ∨ t.head? ≠ some 0x2F) :
    withFragment (pathQA sp ty (if (PathPrepared.shortenPath (getPathname (layout l)) ty != getPathname (layout l)) = true
        then updateBasePathname (layout l) (PathPrepared.shortenPath (getPathname (layout l)) ty) else layout l) t) frag =
      layout { l with dashdot := !l.auth && startsWithSlashSlash (pathQFrom sp ty (PathPrepared.shortenPath l.path ty) t).1,
                      path := (pathQFrom sp ty (PathPrepared.shortenPath l.path ty) t).1,
                      query := (pathQFrom sp ty (PathPrepared.shortenPath l.path ty) t).2, frag := encFrag frag } := by
  rw [Props.C07.getPathname_layout]
  have hshort : PathPrepared.shortenPath l.path ty = FP.pathText (Spec.shortenPath scheme segs) := by
    rw [hpath]; exact PP.shortenPath_eq scheme ty hty.file segs hns
  generalize PathPrepared.shortenPath l.path ty = short at hshort
  rw [shortenWriteBack l short hna hdd hg,
    pathFragA_from sp scheme ty hty { l with dashdot := newDashDot l short, path := short } _ hshort (PP.noSlash_shorten scheme segs hns)
      hna (newDashDot_dashDotOk l short hdd hp) hq hf ho frag t
      (fun he => ⟨by have : short = [] := he; simp [this, newDashDot, startsWithSlashSlash], hh⟩)]

theorem baseAuthority_noAuthNoCred (r : Rec) : NoAuthNoCred (baseAuthority r) := toL_noAuthNoCred r

theorem toL_dashDotOk (r : Rec) : DashDotOk (toL r) := by
  intro h
  have h' : (r.host.isNone && !r.opq && startsWithSlashSlash r.path) = true := h
  simp only [Bool.and_eq_true, Bool.not_eq_true'] at h'
  have hh : r.host = none := by cases hx : r.host <;> simp_all
  exact ⟨by simp [toL, hh], h'.1.2, by simp [toL, hh]⟩

theorem toL_guard (r : Rec) : (toL r).dashdot = newDashDot (toL r) (toL r).path := by
  rw [newDashDot_ok _ _ (toL_dashDotOk r)]
  simp only [toL, pathStartsSlashSlash]
  cases r.host <;> cases r.opq <;> cases startsWithSlashSlash r.path <;> rfl

theorem toL_inherit (r : Rec) (sp : Bool) (P : Bytes) (Q F : Option Bytes) (o : Bool) :
    toL { scheme := r.scheme, special := sp, username := r.username, password := r.password, host := r.host, port := r.port,
          path := P, query := Q, hash := F, opq := o } =
      { toL r with opq := o, dashdot := r.host.isNone && !o && startsWithSlashSlash P, path := P, query := Q, frag := F } := rfl

theorem relativeSlashA_eq (idna : Idna) (r : Rec) (hb : BaseRec r) (frag : Option Bytes) (t : Bytes) :
    relativeSlashA idna (bare (r.scheme ++ [0x3A])) (layout (toL r)) frag t = aggOf (relativeSlash idna r frag t) := by
  unfold relativeSlashA relativeSlash
  have hbsp : baseSpecial (layout (toL r)) = r.special := by unfold baseSpecial; rw [baseType_layout, hb.special]
  rw [hbsp, baseType_layout]
  -- the path-only exit: the authority of the base, then PATH on an empty path
  have hpo : ∀ t', t'.head? ≠ some 0x2F →
      some (withFragment (pathQA r.special (getSchemeType r.scheme) (copyAuthority (bare (r.scheme ++ [0x3A])) (layout (toL r))) t') frag) =
        aggOf (.ok { scheme := r.scheme, special := r.special, username := r.username, password := r.password, host := r.host, port := r.port,
                     path := (pathQ r.special (getSchemeType r.scheme) t').1, query := (pathQ r.special (getSchemeType r.scheme) t').2,
                     hash := encFrag frag, opq := false }) := by
    intro t' ht'
    rw [copyAuthority_eq r hb, pathQA_layout _ _ (baseAuthority r) t' (baseAuthority_noAuthNoCred r) rfl rfl rfl rfl rfl (Or.inr ht'), withFragment_layout _ _ rfl]
    simp only [aggOf, toL_inherit]
    congr 2
    simp only [baseAuthority, toL, encFrag, Bool.not_false, Bool.and_true]
    cases r.host <;> rfl
  cases t with
  | nil => exact hpo [] (by simp)
  | cons c r' =>
    simp only
    split
    · rw [← layout_LA_bare]
      exact afterSlashesA_eq idna true _ r.scheme frag _
    · split
      · rw [← layout_LA_bare]
        exact afterSlashesA_eq idna false _ r.scheme frag _
      · rename_i h2
        exact hpo (c :: r') (by simp; exact fun e => h2 (by simp [e]))

/-- the content after "username … query of the base" -/
def baseKept (r : Rec) : L := { toL r with frag := none }

def baseKeptNoQuery (r : Rec) : L := { toL r with query := none, frag := none }

theorem inheritA_eq (r : Rec) (hb : BaseRec r) :
    copySearch (updateBasePathname { copyAuthority (bare (r.scheme ++ [0x3A])) (layout (toL r)) with opq := (layout (toL r)).opq }
      (getPathname (layout (toL r)))) (layout (toL r)) = layout (baseKept r) := by
  rw [copyAuthority_eq r hb, Props.C07.getPathname_layout]
  have h1 : ({ layout (baseAuthority r) with opq := (layout (toL r)).opq } : Agg) = layout { baseAuthority r with opq := r.opq } := rfl
  rw [h1, updateBasePathname_layout _ _ (show NoAuthNoCred { baseAuthority r with opq := r.opq } from toL_noAuthNoCred r) (by intro h; cases h),
    copySearch_eq]
  have hnd : newDashDot { baseAuthority r with opq := r.opq } (toL r).path = (toL r).dashdot := by
    rw [toL_guard, newDashDot_ok _ _ (toL_dashDotOk r), newDashDot_ok _ _ (by intro h; cases h)]
    rfl
  have hq : qOr (toL r).query (baseAuthority r).query = (toL r).query := qOr_none _
  rw [hnd, hq]
  rfl

theorem relativeSchemeA_eq (idna : Idna) (r : Rec) (hb : BaseRec r) (hno : r.opq = false) (a0 : Agg)
    (ha0 : copyScheme a0 (layout (toL r)) = bare (r.scheme ++ [0x3A])) (frag : Option Bytes) (t : Bytes) :
    relativeSchemeA idna a0 (layout (toL r)) frag t = aggOf (relativeScheme idna r frag t) := by
  unfold relativeSchemeA relativeScheme
  have hbt := baseType_layout r
  have hbsp : baseSpecial (layout (toL r)) = r.special := by unfold baseSpecial; rw [hbt, hb.special]
  rw [hbsp, hbt, ha0]
  simp only [inheritA_eq r hb]
  have hopq : (layout (toL r)).opq = r.opq := rfl
  have hself : ({ layout (baseKept r) with opq := (layout (toL r)).opq } : Agg) = layout (baseKept r) := rfl
  simp only [hself]
  cases t with
  | nil =>
    simp only [inherit, aggOf]
    rw [withFragment_layout _ _ rfl, toL_inherit]
    rfl
  | cons c rest =>
    simp only
    split
    · exact relativeSlashA_eq idna r hb frag rest
    · rename_i hsl
      split
      · simp only [inherit, aggOf]
        rw [updateBaseSearch_layout, withFragment_layout _ _ rfl, toL_inherit]
        rfl
      · -- "set url's query to null, shorten url's path", then PATH on the whole text
        obtain ⟨segs, hsegs, hns⟩ := hb.pathSegs hno
        have hhead : (c :: rest).head? ≠ some 0x2F := by
          simp only [List.head?_cons, ne_eq, Option.some.injEq]
          intro e; apply hsl; simp [e]
        have hcs : clearSearch (layout (baseKept r)) = layout (baseKeptNoQuery r) := clearSearch_layout _
        rw [hcs, shortenPathA_eq r.special r.scheme _ (PB.tyOf r.scheme) (baseKeptNoQuery r) segs hsegs hns (toL_noAuthNoCred r) (toL_dashDotOk r) (toL_guard r)
          (fun h => by cases hx : r.host <;> simp_all [baseKeptNoQuery, toL]) rfl rfl hno frag _ (Or.inr hhead)]
        simp only [inherit, aggOf, toL_inherit, hno]
        congr 3
        simp only [baseKeptNoQuery, toL]
        cases r.host <;> rfl

theorem hexUpper_ne (n : Nat) (hn : n < 16) : hexUpper n ≠ 0x3A ∧ hexUpper n ≠ 0x40 := by
  have : ∀ k : Fin 16, hexUpper k.val ≠ 0x3A ∧ hexUpper k.val ≠ 0x40 := by decide
  exact this ⟨n, hn⟩

theorem enc_userinfo_nocolon (s : Bytes) : (0x3A : UInt8) ∉ percentEncode inUserinfo s := by
  intro h
  rcases HC.mem_percentEncode _ _ _ h with ⟨_, h2⟩ | h2 | ⟨n, hn, h2⟩
  · revert h2; decide
  · revert h2; decide
  · exact (hexUpper_ne n hn).1 h2.symm

theorem credUser_nocolon (c : Option Bytes) : (0x3A : UInt8) ∉ credUser c := by
  unfold credUser
  cases c with
  | none => simp
  | some c => exact enc_userinfo_nocolon _

/-- what `BaseRec` asks of a record beyond the invariants of C19 -/
structure CredHostOk (u : Url) : Prop where
  noColon : (0x3A : UInt8) ∉ u.username
  noAt : ∀ h, u.host = some h → h.serialize.headD 0 ≠ 0x40

theorem pathStartState_noSlash (scheme text : Bytes) : PP.NoSlash (pathStartState scheme text) := by
  unfold pathStartState
  split
  · split
    · split <;> exact AggL.pathState_noSlash _ _
    · exact AggL.pathState_noSlash _ _
  · split
    · intro s hs; cases hs
    · split <;> exact AggL.pathState_noSlash _ _

theorem parsed_ok {idna : Idna} {pre : Bytes} {followed : Bool} {u : Url} (h : Parsed idna none pre followed u) :
    PP.NoSlash u.path ∧ CredHostOk u := by
  cases h with
  | @authority scheme _ _ a _ _ ha =>
    obtain ⟨h1, _, _, _, c, hu, _⟩ := parseAuthority_ok idna scheme _ a (fun h => h.serialize.headD 0 ≠ 0x40)
      (fun s h hs hp => ⟨hostParse_no_at idna s _ h hp, (hostParse_wf idna s _ h hs hp).2⟩) (by simp [Host.serialize]) ha
    exact ⟨pathStartState_noSlash _ _, hu ▸ credUser_nocolon c, fun h' hh' => by injection hh' with e; exact e ▸ h1⟩
  | @fileHost h _ hh =>
    refine ⟨AggL.pathState_noSlash _ _, by simp, fun h' hh' => ?_⟩
    injection hh' with e; subst e
    rcases hh with rfl | ⟨buf, _, hp, _⟩
    · simp [Host.serialize]
    · exact host_no_at idna buf _ hp
  | pathOnly => exact ⟨AggL.pathState_noSlash _ _, by simp, fun _ hh' => nomatch hh'⟩
  | opaquePath => exact ⟨(fun _ hs => nomatch hs), by simp, fun _ hh' => nomatch hh'⟩
  | fileBase hb | fileKeep hb | relative hb | relativeKeep hb | opaqueKeep hb => cases hb

theorem parse_ok (idna : Idna) (input : Bytes) (u : Url) (h : parse idna input none = some u) : PP.NoSlash u.path ∧ CredHostOk u := by
  unfold parse at h
  simp only at h
  split at h
  · cases h
  · rename_i u0 hc
    have h0 := parsed_ok (parseCore_parsed hc)
    injection h with h
    subst h
    split <;> split <;> exact ⟨h0.1, h0.2.noColon, h0.2.noAt⟩

theorem parse_ch (idna : Idna) (input : Bytes) (u : Url) (h : parse idna input none = some u) : CredHostOk u :=
  (parse_ok idna input u h).2

theorem baseRec_of (b : Url) (hinv : RecInv b = true) (hseg : PP.NoSlash b.path) (hch : CredHostOk b) : BaseRec (UR.recOf b) := by
  have iv := (recInv_iff b).1 hinv
  have htf := Proto.type_facts b.scheme
  have hspec : getSchemeType b.scheme ≠ 1 → isSpecialScheme b.scheme = true := by
    intro hne; rw [← htf.1]; simpa using hne
  constructor
  case noColon => exact hch.noColon
  case special => exact htf.1.symm
  case hostless =>
    intro hn
    exact iv.nocred (Or.inl (by cases h : b.host <;> simp_all [UR.recOf]))
  case emptyHost =>
    intro he
    cases hh : b.host with
    | none => simp [UR.recOf, hh] at he
    | some h =>
      -- only the empty host serializes to the empty string
      have hser : h.serialize = [] := by simpa [UR.recOf, hh] using he
      have : h = .empty := by
        cases hhe : (decide (h = Host.empty)) with
        | true => simpa using hhe
        | false => exact absurd hser ((credOk_of_recInv b hinv).nonEmpty h hh (by simpa using hhe))
      exact iv.nocred (Or.inr (Or.inl (this ▸ hh)))
  case specialHost =>
    intro hne
    obtain ⟨_, _, h, hh, _⟩ := iv.special (hspec hne)
    simp [UR.recOf, hh]
  case noAt =>
    intro h hh
    cases hb : b.host with
    | none => simp [UR.recOf, hb] at hh
    | some x =>
      have : h = x.serialize := by simpa [UR.recOf, hb] using hh.symm
      rw [this]
      exact hch.noAt x hb
  case pathSegs =>
    intro hno
    exact ⟨b.path, by simp [UR.recOf, Url.pathSerialized, FP.pathText] at hno ⊢; simp [hno], hseg⟩
  case specialNotOpaque =>
    intro hne
    exact (iv.special (hspec hne)).1
  case fileNoCred =>
    intro h6
    have h6' : getSchemeType b.scheme = 6 := h6
    exact iv.nocred (Or.inr (Or.inr (file_of_type _ (by rw [h6']; rfl))))

theorem parsed_baseRec (idna : Idna) (bi : Bytes) (b : Url) (h : parse idna bi none = some b) : BaseRec (UR.recOf b) :=
  baseRec_of b (parse_inv idna bi none b (fun _ hx => nomatch hx) h) (parse_ok idna bi b h).1 (parse_ok idna bi b h).2

/-- the record of a base object whose `type` is FILE (the file states consult the base only then: `fileBaseA`) -/
structure FileRec (r : Rec) : Prop where
  base : BaseRec r
  ty : getSchemeType r.scheme = 6

theorem FileRec.scheme {r : Rec} (h : FileRec r) : r.scheme = bFile :=
  file_of_type _ (by rw [h.ty]; rfl)

theorem FileRec.host {r : Rec} (h : FileRec r) : ∃ x, r.host = some x := by
  have := h.base.specialHost (by rw [h.ty]; decide)
  cases hh : r.host with
  | none => rw [hh] at this; cases this
  | some x => exact ⟨x, rfl⟩

theorem FileRec.opq {r : Rec} (h : FileRec r) : r.opq = false := h.base.specialNotOpaque (by rw [h.ty]; decide)

/-- the content of a `file` object that took host, path and query over from the base -/
def fileKept (r : Rec) (path : Bytes) (query : Option Bytes) : L :=
  { scheme := bFile ++ [0x3A], auth := true, user := [], pass := [], host := r.host.getD [], port := none, dashdot := false,
    path := path, query := query, frag := none, opq := false }

theorem fileKept_noAuthNoCred (r : Rec) (p : Bytes) (q : Option Bytes) : NoAuthNoCred (fileKept r p q) := by intro h; cases h
theorem fileKept_dashDotOk (r : Rec) (p : Bytes) (q : Option Bytes) : DashDotOk (fileKept r p q) := by intro h; cases h

/-- the `ada::url` object of a `file` URL that took its host from the base -/
def fileOut (r : Rec) (P : Bytes) (Q F : Option Bytes) : Rec :=
  { scheme := bFile, special := true, username := [], password := [], host := r.host, port := none, path := P, query := Q,
    hash := F, opq := false }

theorem toL_fileInherit (r : Rec) (hf : FileRec r) (P : Bytes) (Q F : Option Bytes) :
    toL (fileOut r P Q F) = { fileKept r P Q with frag := F } := by
  obtain ⟨x, hx⟩ := hf.host
  simp [toL, fileOut, fileKept, hx, pathStartsSlashSlash]

theorem getHost_file (r : Rec) (hf : FileRec r) : getHost (layout (toL r)) = r.host.getD [] := by
  obtain ⟨x, hx⟩ := hf.host
  rw [getHost_toL r hf.base]
  simp [getHostR, hx, (hf.base.fileNoCred hf.ty).2.2]

theorem fileHostCopy (r : Rec) (x : Bytes) (hx : x = r.host.getD []) :
    updateHostToBaseHost true true (layout (LH (bFile ++ [0x3A]) [] [] [] none)) x = layout (fileKept r [] none) := by
  unfold updateHostToBaseHost
  simp only [Bool.not_true, Bool.false_and, Bool.false_eq_true, ↓reduceIte]
  rw [hostname_LH, hx]
  rfl

theorem fileInherit_out (r : Rec) (frag : Option Bytes) (P : Bytes) (Q : Option Bytes) :
    fileInherit r frag P Q false = .ok (fileOut r P Q (encFrag frag)) := rfl

theorem filePathA_from (r : Rec) (hf : FileRec r) (path0 : Bytes) (segs : List Bytes) (hpath : path0 = FP.pathText segs)
    (hn : PP.NoSlash segs) (frag : Option Bytes) (t : Bytes) :
    some (filePathA (layout (fileKept r path0 none)) frag t) =
      aggOf (fileInherit r frag (pathQFrom true 6 path0 t).1 (pathQFrom true 6 path0 t).2 false) := by
  unfold filePathA
  rw [pathFragA_from true bFile 6 ⟨by decide, by decide⟩ (fileKept r path0 none) segs hpath hn (fileKept_noAuthNoCred _ _ _) (fileKept_dashDotOk _ _ _) rfl rfl rfl
    frag t (fun _ => ⟨rfl, Or.inl rfl⟩)]
  simp only [fileInherit_out, aggOf, toL_fileInherit r hf]
  rfl

theorem newDashDot_auth (l : L) (P : Bytes) (ha : l.auth = true) (hd : l.dashdot = false) : newDashDot l P = false := by
  unfold newDashDot; cases startsWithSlashSlash P <;> simp [ha, hd]

theorem fileTakeOver (r : Rec) (hf : FileRec r) :
    ({ copySearch (updateBasePathname (updateHostToBaseHost true true (layout (LH (bFile ++ [0x3A]) [] [] [] none))
        (getHostname (layout (toL r)))) (getPathname (layout (toL r)))) (layout (toL r)) with opq := (layout (toL r)).opq } : Agg) =
      layout (fileKept r r.path r.query) := by
  rw [fileHostCopy r _ (getHostname_toL r hf.base), Props.C07.getPathname_layout,
    updateBasePathname_layout _ _ (fileKept_noAuthNoCred _ _ _) (fileKept_dashDotOk _ _ _), copySearch_eq]
  rw [newDashDot_auth _ _ rfl rfl]
  have hopq : (layout (toL r)).opq = false := hf.opq
  have : ∀ l : L, l.opq = false → ({ layout l with opq := (layout (toL r)).opq } : Agg) = layout l := by
    intro l hl; rw [hopq]; cases l; simp_all [layout]
  rw [this _ rfl]
  simp [fileKept, toL, qOr]
  cases r.query <;> rfl

theorem fileOtherA_eq (r : Rec) (hf : FileRec r) (frag : Option Bytes) (t : Bytes) :
    some (fileOtherA (some (layout (toL r))) (layout (LH (bFile ++ [0x3A]) [] [] [] none)) frag t) =
      aggOf (fileOther (some r) frag t) := by
  unfold fileOtherA fileOther
  simp only [fileTakeOver r hf, hf.opq]
  obtain ⟨segs, hsegs, hns⟩ := hf.base.pathSegs hf.opq
  cases t with
  | nil =>
    simp only [fileInherit_out, aggOf]
    rw [withFragment_layout _ _ rfl, toL_fileInherit r hf]
    rfl
  | cons c rest =>
    simp only
    split
    · simp only [fileInherit_out, aggOf]
      rw [updateBaseSearch_layout, withFragment_layout _ _ rfl, toL_fileInherit r hf]
      rfl
    · have hcs : clearSearch (layout (fileKept r r.path r.query)) = layout (fileKept r r.path none) := clearSearch_layout _
      rw [hcs]
      split
      · unfold filePathA
        rw [shortenPathA_eq true bFile 6 ⟨by decide, by decide⟩ (fileKept r r.path none) segs hsegs hns (fileKept_noAuthNoCred _ _ _) (fileKept_dashDotOk _ _ _)
          (newDashDot_auth _ _ rfl rfl).symm (fun h => nomatch h) rfl rfl rfl frag _ (Or.inl rfl)]
        simp only [fileInherit_out, aggOf, toL_fileInherit r hf]
        rfl
      · -- the input starts with a drive letter: the inherited path goes
        have hcp : clearPathname (layout (fileKept r r.path none)) = layout (fileKept r [] none) := clearPathname_layout _ (fileKept_dashDotOk _ _ _)
        rw [hcp]
        exact filePathA_from r hf [] [] rfl (by intro s hs; cases hs) frag _

theorem fileSlashOtherA_eq (r : Rec) (hf : FileRec r) (frag : Option Bytes) (t : Bytes) :
    some (fileSlashOtherA (some (layout (toL r))) (layout (LH (bFile ++ [0x3A]) [] [] [] none)) frag t) =
      aggOf (fileSlashOther (some r) frag t) := by
  unfold fileSlashOtherA fileSlashOther
  simp only [fileHostCopy r _ (getHost_file r hf), Props.C07.getPathname_layout]
  have hp : (toL r).path = r.path := rfl
  rw [hp]
  obtain ⟨segs, hsegs, hns⟩ := hf.base.pathSegs hf.opq
  -- the path the object starts PATH with: the base's drive letter, or nothing
  generalize hfirst : (r.path.drop 1).takeWhile (· != 0x2F) = first
  split
  · rename_i hcond
    have happ : appendBasePathname (layout (fileKept r [] none)) (0x2F :: first) = layout (fileKept r (0x2F :: first) none) :=
      appendBasePathname_layout _ _
    rw [happ]
    -- `first` is the first segment of the base path
    cases segs with
    | nil =>
      rw [hsegs] at hcond
      simp [FP.pathText] at hcond
    | cons p more =>
      have hp1 : (0x2F : UInt8) ∉ p := hns p (by simp)
      have hfp : first = p := by
        rw [← hfirst, hsegs]
        exact PB.first_segment p more hp1
      exact filePathA_from r hf _ [p] (by rw [hfp]; simp [FP.pathText])
        (by intro s hs; simp only [List.mem_singleton] at hs; subst hs; exact hp1) frag t
  · exact filePathA_from r hf [] [] rfl (by intro s hs; cases hs) frag t

theorem fileBase_cases (r : Rec) (hb : BaseRec r) (P : Option Agg → Option Rec → Prop) (h0 : P none none)
    (h1 : FileRec r → P (some (layout (toL r))) (some r)) : P (fileBaseA (layout (toL r))) (fileBase r) := by
  unfold fileBaseA fileBase
  rw [baseType_layout]
  split
  · rename_i h6; exact h1 ⟨hb, by simpa using h6⟩
  · exact h0

theorem fileSlashBA_eq (idna : Idna) (r : Rec) (hb : BaseRec r) (frag : Option Bytes) (t : Bytes) (hid : ∀ d, HP.IdnaAt idna d) :
    fileSlashBA idna (fileBaseA (layout (toL r))) (layout (LH (bFile ++ [0x3A]) [] [] [] none)) frag t =
      aggOf (fileSlashB idna (fileBase r) frag t) := by
  unfold fileSlashBA fileSlashB
  have hother := fileBase_cases r hb
    (fun fa fb => some (fileSlashOtherA fa (layout (LH (bFile ++ [0x3A]) [] [] [] none)) frag t) = aggOf (fileSlashOther fb frag t))
    (filePathA_eq frag t) (fun hf => fileSlashOtherA_eq r hf frag t)
  cases t with
  | nil => exact hother
  | cons c r' =>
    simp only
    split
    · exact fileHostA_eq idna frag r' hid
    · exact hother

theorem fileBA_eq (idna : Idna) (r : Rec) (hb : BaseRec r) (a0 : Agg)
    (ha0 : updateBaseHostname (setSchemeWithColon a0 (bFile ++ [0x3A])) [] = layout (LH (bFile ++ [0x3A]) [] [] [] none))
    (frag : Option Bytes) (t : Bytes) (hid : ∀ d, HP.IdnaAt idna d) :
    fileBA idna (fileBaseA (layout (toL r))) a0 frag t = aggOf (fileB idna (fileBase r) frag t) := by
  unfold fileBA fileB
  rw [ha0]
  have hother := fileBase_cases r hb
    (fun fa fb => some (fileOtherA fa (layout (LH (bFile ++ [0x3A]) [] [] [] none)) frag t) = aggOf (fileOther fb frag t))
    (filePathA_eq frag t) (fun hf => fileOtherA_eq r hf frag t)
  cases t with
  | nil => exact hother
  | cons c r' =>
    simp only
    split
    · exact fileSlashBA_eq idna r hb frag r' hid
    · exact hother

/-- With a base, too, both instantiations stay in step, on every route, for a base object that is the layout of a
    record with the record invariants -/
theorem machineBA_eq_full (idna : Idna) (r : Rec) (hb : BaseRec r) (input : Bytes) (hid : ∀ d, HP.IdnaAt idna d) :
    machineBA idna (layout (toL r)) input = some (aggOf (machineB idna r input)) := by
  unfold machineBA machineB
  have hopq : (layout (toL r)).opq = r.opq := rfl
  generalize prep input = pd
  obtain ⟨d, frag⟩ := pd
  simp only
  rw [baseType_layout, hopq]
  cases schemeScan d with
  | none =>
    simp only
    split
    · rfl
    · split
      · -- an opaque base and a lone fragment
        rename_i h2
        simp only [aggOf]
        rw [copyScheme_empty, ← layout_LA_bare, Props.C07.getPathname_layout,
          updateBasePathname_opaque _ _ (fun _ => ⟨rfl, rfl⟩) rfl, copySearch_eq, withFragment_layout _ _ rfl]
        simp [toL, LA, qOr, encFrag, h2]
        cases r.query <;> rfl
      · rename_i h2
        have hno : r.opq = false := by simpa using h2
        split
        · exact congrArg some (relativeSchemeA_eq idna r hb hno emptyAgg (copyScheme_empty r) frag d)
        · exact congrArg some (fileBA_eq idna r hb emptyAgg fileStart_empty frag d hid)
  | some nr =>
    obtain ⟨name, rest⟩ := nr
    simp only [parseSchemeA_eq]
    rw [PS.parseSchemeNoOverride_spec]
    simp only
    split
    · rename_i h6
      rw [file_of_type _ h6]
      exact congrArg some (fileBA_eq idna r hb _ fileStart_scheme frag rest hid)
    · split
      · -- SPECIAL_RELATIVE_OR_AUTHORITY: the two schemes are the same special scheme
        rename_i hrel
        simp only [Bool.and_eq_true] at hrel
        have hne1 : getSchemeType (name.map toLowerByte) ≠ 1 := by simpa using hrel.1
        have hsame : r.scheme = name.map toLowerByte := by
          have := PB.same_type r.scheme (name.map toLowerByte) hne1
          rw [hrel.2] at this
          simpa using this.symm
        split
        · exact congrArg some (afterSlashesA_eq idna true _ _ frag _)
        · rw [← hsame, layout_LA_bare]
          exact congrArg some (relativeSchemeA_eq idna r hb (hb.specialNotOpaque (by rw [hsame]; exact hne1)) _ (copyScheme_bare r) frag rest)
      · split
        · exact congrArg some (afterSchemeNSA_eq idna _ frag rest)
        · exact congrArg some (afterSlashesA_eq idna true _ _ frag _)

end AdaVerif.Lemmas.PAB
