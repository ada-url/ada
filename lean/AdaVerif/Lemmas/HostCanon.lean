import AdaVerif.Lemmas.FixedPoint
import AdaVerif.Lemmas.Decode
/-
What the host parser returns is canonical (`FP.HostCanon`): IPv4 addresses are below 2^32, IPv6 addresses have eight
16-bit pieces, opaque hosts are encoded and free of forbidden code points, domains are stable under
domain-to-ASCII when the IDNA parameter is.
-/
namespace AdaVerif.Lemmas.HC
open AdaVerif AdaVerif.Spec AdaVerif.Lemmas AdaVerif.Lemmas.FP

theorem ipv4_tail (numbers : List Nat) (last : Nat) (hl : numbers.getLast? = some last) (hlen : numbers.length ≤ 4)
    (hfront : ∀ x ∈ numbers.dropLast, x ≤ 255) (hlast : last < 256 ^ (5 - numbers.length)) :
    ipv4Parse.go numbers.dropLast 0 last < 4294967296 := by
  match numbers, hl, hlen, hfront, hlast with
  | [a], hl, _, _, hlast =>
    simp at hl; subst hl
    simp [ipv4Parse.go] at hlast ⊢; omega
  | [a, b], hl, _, hfront, hlast =>
    simp at hl; subst hl
    have ha := hfront a (by simp)
    simp [ipv4Parse.go] at hlast ⊢; omega
  | [a, b, c], hl, _, hfront, hlast =>
    simp at hl; subst hl
    have ha := hfront a (by simp)
    have hb := hfront b (by simp)
    simp [ipv4Parse.go] at hlast ⊢; omega
  | [a, b, c, d], hl, _, hfront, hlast =>
    simp at hl; subst hl
    have ha := hfront a (by simp)
    have hb := hfront b (by simp)
    have hc := hfront c (by simp)
    simp [ipv4Parse.go] at hlast ⊢; omega
  | [], hl, _, _, _ => simp at hl
  | _ :: _ :: _ :: _ :: _ :: _, _, hlen, _, _ => simp at hlen

theorem ipv4Parse_lt (s : Bytes) (a : Nat) (h : ipv4Parse s = some a) : a < 4294967296 := by
  unfold ipv4Parse at h
  extract_lets _ parts at h
  split at h; · cases h
  rename_i hlen
  split at h; · cases h
  rename_i numbers hn
  split at h; · cases h
  rename_i last hl
  simp only at h
  split at h; · cases h
  rename_i hfront
  split at h; · cases h
  rename_i hlast
  injection h with h
  subst h
  have hlen' : numbers.length = parts.length := mapM_length _ _ _ hn
  apply ipv4_tail numbers last hl (by omega)
  · intro x hx
    simp only [List.any_eq_true, decide_eq_true_eq, not_exists, not_and] at hfront
    have := hfront x hx
    omega
  · omega

theorem readHex_bound (m : Nat) (s : Bytes) (v len : Nat) : (readHex m s v len).1 < (v + 1) * 16 ^ m := by
  induction m generalizing s v len with
  | zero => simp [readHex]
  | succ m ih =>
    cases s with
    | nil =>
      simp only [readHex]
      have : 1 ≤ 16 ^ (m + 1) := Nat.pow_pos (by decide)
      calc v < (v + 1) * 1 := by omega
        _ ≤ (v + 1) * 16 ^ (m + 1) := Nat.mul_le_mul_left _ this
    | cons b rest =>
      simp only [readHex]
      split
      · have h1 := ih rest (v * 16 + hexVal b) (len + 1)
        have h2 := hexVal_lt b
        have h3 : (v * 16 + hexVal b + 1) * 16 ^ m ≤ ((v + 1) * 16) * 16 ^ m := Nat.mul_le_mul_right _ (by omega)
        have h4 : ((v + 1) * 16) * 16 ^ m = (v + 1) * 16 ^ (m + 1) := by
          rw [Nat.pow_succ, Nat.mul_assoc, Nat.mul_comm 16 (16 ^ m)]
        omega
      · have : 1 ≤ 16 ^ (m + 1) := Nat.pow_pos (by decide)
        calc v < (v + 1) * 1 := by omega
          _ ≤ (v + 1) * 16 ^ (m + 1) := Nat.mul_le_mul_left _ this

theorem readHex4_lt (s : Bytes) : (readHex 4 s).1 < 65536 := by
  have := readHex_bound 4 s 0 0
  simpa using this

theorem piece_go_le (fuel v : Nat) (t : Bytes) (r : Nat × Bytes) (hv : v ≤ 255)
    (h : readIpv4Piece.go fuel v t = some r) : r.1 ≤ 255 := by
  induction fuel generalizing v t with
  | zero => unfold readIpv4Piece.go at h; injection h with h; subst h; exact hv
  | succ f ih =>
    cases t with
    | nil => unfold readIpv4Piece.go at h; injection h with h; subst h; exact hv
    | cons c t' =>
      simp only [readIpv4Piece.go] at h
      split at h
      · split at h; · cases h
        split at h; · cases h
        rename_i hle
        exact ih _ _ (by omega) h
      · injection h with h; subst h; exact hv

theorem readIpv4Piece_le (s : Bytes) (r : Nat × Bytes) (h : readIpv4Piece s = some r) : r.1 ≤ 255 := by
  unfold readIpv4Piece at h
  split at h; · cases h
  rename_i b rest
  split at h; · cases h
  rename_i hd
  have := (Radix.digit_back b (by simpa using hd)).2.1
  exact piece_go_le _ _ _ r (by omega) h

theorem readEmbeddedIpv4_lt (s : Bytes) (p1 p2 : Nat) (h : readEmbeddedIpv4 s = some (p1, p2)) : p1 < 65536 ∧ p2 < 65536 := by
  unfold readEmbeddedIpv4 at h
  split at h; · cases h
  rename_i a s1 ha
  split at h <;> try cases h
  split at h; · cases h
  rename_i b s2 hb
  split at h <;> try cases h
  split at h; · cases h
  rename_i c s3 hc
  split at h <;> try cases h
  split at h; · cases h
  rename_i d s4 hd
  split at h <;> try cases h
  have h1 := readIpv4Piece_le _ _ ha
  have h2 := readIpv4Piece_le _ _ hb
  have h3 := readIpv4Piece_le _ _ hc
  have h4 := readIpv4Piece_le _ _ hd
  simp only at h1 h2 h3 h4
  constructor <;> omega

def Small (ps : List Nat) : Prop := ∀ x ∈ ps, x < 65536

theorem small_snoc (ps : List Nat) (v : Nat) (hp : Small ps) (hv : v < 65536) : Small (ps ++ [v]) := by
  intro x hx
  rcases List.mem_append.mp hx with hx | hx
  · exact hp x hx
  · simp at hx; subst hx; exact hv

theorem ipv6Loop_inv (fuel : Nat) (s : Bytes) (pieces : List Nat) (comp : Option Nat) (r : List Nat × Option Nat)
    (hp : Small pieces) (hl : pieces.length ≤ 8) (h : ipv6Loop fuel s pieces comp = some r) :
    Small r.1 ∧ r.1.length ≤ 8 := by
  induction fuel generalizing s pieces comp with
  | zero => simp [ipv6Loop] at h
  | succ f ih =>
    unfold ipv6Loop at h
    cases s with
    | nil => simp at h; subst h; exact ⟨hp, hl⟩
    | cons c rest =>
      simp only at h
      split at h; · cases h
      rename_i h8
      have hlt : pieces.length < 8 := by
        have : pieces.length ≠ 8 := by simpa using h8
        omega
      split at h
      · split at h; · cases h
        exact ih _ _ _ hp hl h
      · have hv := readHex4_lt (c :: rest)
        generalize hrh : readHex 4 (c :: rest) = rh at h hv
        obtain ⟨value, len, after⟩ := rh
        simp only at h hv
        split at h
        · split at h; · cases h
          split at h; · cases h
          rename_i h6
          split at h; · cases h
          rename_i p1 p2 hemb
          injection h with h; subst h
          have := readEmbeddedIpv4_lt _ _ _ hemb
          refine ⟨?_, by simp; omega⟩
          intro x hx
          rcases List.mem_append.mp hx with hx | hx
          · exact hp x hx
          · simp at hx; rcases hx with rfl | rfl
            · exact this.1
            · exact this.2
        · split at h; · cases h
          split at h; · cases h
          exact ih _ _ _ (small_snoc _ _ hp hv) (by simp; omega) h
        · split at h; · cases h
          injection h with h; subst h
          exact ⟨small_snoc _ _ hp hv, by simp; omega⟩
        · cases h

theorem ipv6Parse_shape (s : Bytes) (p : List Nat) (h : ipv6Parse s = some p) : p.length = 8 ∧ ∀ x ∈ p, x < 65536 := by
  unfold ipv6Parse at h
  simp only at h
  split at h; · cases h
  rename_i t ps comp hstart
  have hps : ps = [] := by
    split at hstart
    · injection hstart with e; injection e with _ e; injection e with e _; exact e.symm
    · cases hstart
    · injection hstart with e; injection e with _ e; injection e with e _; exact e.symm
  subst hps
  split at h; · cases h
  rename_i pieces compress hloop
  have ⟨hsm, hle⟩ := ipv6Loop_inv _ _ _ _ _ (by intro x hx; simp at hx) (by simp) hloop
  simp only at hsm hle
  split at h
  · rename_i k
    split at h; · cases h
    rename_i h7
    injection h with h; subst h
    constructor
    · simp only [List.length_append, List.length_take, List.length_replicate, List.length_drop]; omega
    · intro x hx
      simp only [List.mem_append, List.mem_replicate] at hx
      rcases hx with (hx | hx) | hx
      · exact hsm x (List.mem_of_mem_take hx)
      · omega
      · exact hsm x (List.mem_of_mem_drop hx)
  · split at h
    · rename_i h8
      injection h with h; subst h
      exact ⟨by simpa using h8, hsm⟩
    · cases h

/-- the assumption on the IDNA parameter (UTS46 ToASCII): what it returns is ASCII and stable under domain-to-ASCII -/
def IdnaStable (idna : Idna) : Prop :=
  ∀ d r, idna.toAscii d = some r → r ≠ [] → domainToAscii idna r = some r ∧ isAsciiBytes r = true

theorem lower_xn : ∀ a : UInt8,
    ((toLowerByte a == 0x78 || toLowerByte a == 0x58) = (a == 0x78 || a == 0x58)) ∧
    ((toLowerByte a == 0x6E || toLowerByte a == 0x4E) = (a == 0x6E || a == 0x4E)) := by
  apply forall_uint8_of_fin; decide +kernel

theorem splitOn_map_lower (d : Bytes) : splitOn 0x2E (d.map toLowerByte) = (splitOn 0x2E d).map (·.map toLowerByte) := by
  induction d with
  | nil => rfl
  | cons b t ih =>
    simp only [List.map_cons, splitOn, Lower.beq b 0x2E (by decide)]
    split
    · simp [ih]
    · rw [ih]
      cases splitOn 0x2E t <;> simp

theorem startsWithXn_lower (l : Bytes) : startsWithXn (l.map toLowerByte) = startsWithXn l := by
  match l with
  | [] => rfl
  | [_] => rfl
  | [_, _] => rfl
  | [_, _, _] => rfl
  | a :: b :: c :: d :: _ =>
    simp only [List.map_cons, startsWithXn, (lower_xn a).1, (lower_xn b).2, Lower.beq c 0x2D (by decide),
      Lower.beq d 0x2D (by decide)]

theorem domainToAscii_stable (idna : Idna) (hst : IdnaStable idna) (d r : Bytes) (h : domainToAscii idna d = some r) :
    domainToAscii idna r = some r ∧ isAsciiBytes r = true := by
  have hne := domainToAscii_ne_nil idna d r h
  unfold domainToAscii at h
  simp only at h
  split at h
  · rename_i x hx
    split at h; · cases h
    injection h with h; subst h
    split at hx
    · rename_i hcond
      injection hx with hx; subst hx
      simp only [Bool.and_eq_true, Bool.not_eq_eq_eq_not, Bool.not_true] at hcond
      obtain ⟨hasc, hxn⟩ := hcond
      have hasc' : isAsciiBytes (d.map toLowerByte) = true := by
        simp only [isAsciiBytes, List.all_eq_true, decide_eq_true_eq, List.mem_map] at hasc ⊢
        rintro b ⟨a, ha, rfl⟩
        exact Lower.ascii a (hasc a ha)
      have hxn' : (splitOn 0x2E (d.map toLowerByte)).any startsWithXn = false := by
        rw [splitOn_map_lower, List.any_map]
        rw [← hxn]
        congr 1
        funext l
        exact startsWithXn_lower l
      have hmap : (d.map toLowerByte).map toLowerByte = d.map toLowerByte := by
        rw [List.map_map]
        apply List.map_congr_left
        intro a _
        exact Lower.idem a
      exact ⟨by rw [domainToAscii_ascii idna _ hasc' hxn' hne, hmap], hasc'⟩
    · exact hst d x hx hne
  · cases h

theorem hostParse_canon (idna : Idna) (hst : IdnaStable idna) (s : Bytes) (opq : Bool) (h : Host) (hs : s ≠ [])
    (hp : hostParse idna s opq = some h) : HostCanon idna (!opq) h ∧ h ≠ .empty := by
  unfold hostParse at hp
  split at hp
  · split at hp
    · cases hp
    · simp only [Option.map_eq_some_iff] at hp
      obtain ⟨a, ha, rfl⟩ := hp
      exact ⟨ipv6Parse_shape _ _ ha, by simp⟩
  · split at hp
    · rename_i hopq
      unfold opaqueHostParse at hp
      split at hp
      · cases hp
      · rename_i hforb
        injection hp with hp; subst hp
        have hne := percentEncode_ne_nil inC0 s hs
        have hfs : ∀ b ∈ s, isForbiddenHost b = false := by simpa [List.any_eq_false] using hforb
        refine ⟨⟨by simp [hopq], hne, ?_, ?_⟩, by simp⟩
        · simp only [List.any_eq_false]
          intro b hb
          rcases mem_percentEncode inC0 s b hb with h1 | h1
          · simp [hfs b h1.1]
          · simp [(pctb_facts b h1).2.2.2.2.2.2.1]
        · exact percentEncode_clean inC0 (fun b hb => (pctb_facts b hb).1) s
    · rename_i hopq
      have hopq' : opq = false := by simpa using hopq
      simp only at hp
      split at hp
      · cases hp
      · rename_i ascii hd
        split at hp
        · cases hp
        · rename_i hforb
          split at hp
          · simp only [Option.map_eq_some_iff] at hp
            obtain ⟨a, ha, rfl⟩ := hp
            exact ⟨⟨by simp [hopq'], ipv4Parse_lt _ _ ha⟩, by simp⟩
          · rename_i hnum
            injection hp with hp; subst hp
            have hst' := domainToAscii_stable idna hst _ _ hd
            refine ⟨⟨by simp [hopq'], domainToAscii_ne_nil idna _ _ hd, by simpa using hforb, by simpa using hnum,
              hst'.1, hst'.2⟩, by simp⟩

end AdaVerif.Lemmas.HC
