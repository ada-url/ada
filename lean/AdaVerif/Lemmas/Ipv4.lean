import AdaVerif.Lemmas.SpecScans
/-
IPv4: parsing a serialized address is the identity, for all 2^32 addresses (by arithmetic, not
enumeration; the only enumerations are over the 256 values of one dotted-decimal part).
-/
namespace AdaVerif.Lemmas
open AdaVerif AdaVerif.Spec

theorem part_facts : ∀ n : Fin 256,
    ipv4Number (natToDec n.val) = some n.val ∧ (0x2E : UInt8) ∉ natToDec n.val ∧ natToDec n.val ≠ [] ∧
    (natToDec n.val).all isAsciiDigit = true := by decide +kernel

theorem part_number (n : Nat) (h : n < 256) : ipv4Number (natToDec n) = some n := (part_facts ⟨n, h⟩).1
theorem part_nodot (n : Nat) (h : n < 256) : (0x2E : UInt8) ∉ natToDec n := (part_facts ⟨n, h⟩).2.1
theorem part_ne_nil (n : Nat) (h : n < 256) : natToDec n ≠ [] := (part_facts ⟨n, h⟩).2.2.1
theorem part_digits (n : Nat) (h : n < 256) : (natToDec n).all isAsciiDigit = true := (part_facts ⟨n, h⟩).2.2.2

theorem split_serialized (a : Nat) :
    splitOn 0x2E (ipv4Serialize a) =
      [natToDec (a / 16777216 % 256), natToDec (a / 65536 % 256), natToDec (a / 256 % 256), natToDec (a % 256)] := by
  unfold ipv4Serialize
  have h1 := part_nodot (a / 16777216 % 256) (Nat.mod_lt _ (by decide))
  have h2 := part_nodot (a / 65536 % 256) (Nat.mod_lt _ (by decide))
  have h3 := part_nodot (a / 256 % 256) (Nat.mod_lt _ (by decide))
  have h4 := part_nodot (a % 256) (Nat.mod_lt _ (by decide))
  simp only [List.append_assoc, List.singleton_append, List.cons_append, List.nil_append]
  rw [splitOn_append _ _ _ h1, splitOn_append _ _ _ h2, splitOn_append _ _ _ h3, splitOn_no_sep _ _ h4]

theorem quad_sum (a : Nat) (ha : a < 4294967296) :
    a % 256 + a / 16777216 % 256 * 16777216 + a / 65536 % 256 * 65536 + a / 256 % 256 * 256 = a := by
  have e1 := Nat.div_add_mod a 256
  have e2 := Nat.div_add_mod (a / 256) 256
  have e3 := Nat.div_add_mod (a / 256 / 256) 256
  have h3 : a / 256 / 256 / 256 % 256 = a / 256 / 256 / 256 :=
    Nat.mod_eq_of_lt (Nat.div_lt_of_lt_mul (Nat.div_lt_of_lt_mul (Nat.div_lt_of_lt_mul ha)))
  rw [show a / 65536 = a / 256 / 256 from (Nat.div_div_eq_div_mul a 256 256).symm,
    show a / 16777216 = a / 256 / 256 / 256 by rw [Nat.div_div_eq_div_mul, Nat.div_div_eq_div_mul]]
  -- linear from here on: every quotient and remainder is an atom
  generalize a / 256 / 256 / 256 % 256 = d1 at *
  generalize a / 256 / 256 % 256 = d2 at *
  generalize a / 256 % 256 = d3 at *
  generalize a % 256 = d4 at *
  generalize a / 256 / 256 / 256 = q3 at *
  generalize a / 256 / 256 = q2 at *
  generalize a / 256 = q1 at *
  omega

theorem ipv4_roundtrip (a : Nat) (ha : a < 4294967296) : ipv4Parse (ipv4Serialize a) = some a := by
  unfold ipv4Parse
  rw [split_serialized]
  have l1 : a / 16777216 % 256 < 256 := Nat.mod_lt _ (by decide)
  have l2 : a / 65536 % 256 < 256 := Nat.mod_lt _ (by decide)
  have l3 : a / 256 % 256 < 256 := Nat.mod_lt _ (by decide)
  have l4 : a % 256 < 256 := Nat.mod_lt _ (by decide)
  have hne := part_ne_nil _ l4
  simp only [List.getLast?_cons_cons, List.getLast?_singleton, List.length_cons, List.length_nil]
  have : (some (natToDec (a % 256)) == some ([] : Bytes)) = false := by
    simp only [beq_eq_false_iff_ne, ne_eq, Option.some.injEq]; exact hne
  simp only [this, Bool.false_and, Bool.false_eq_true, ↓reduceIte]
  simp only [List.mapM_cons, List.mapM_nil, part_number _ l1, part_number _ l2, part_number _ l3, part_number _ l4,
    Option.pure_def, Option.bind_eq_bind, Option.bind_some]
  simp only [List.getLast?_cons_cons, List.getLast?_singleton, List.dropLast, List.any_cons, List.any_nil,
    List.length_cons, List.length_nil]
  have g1 : ¬ (a / 16777216 % 256 > 255) := Nat.not_lt.mpr (Nat.le_of_lt_succ l1)
  have g2 : ¬ (a / 65536 % 256 > 255) := Nat.not_lt.mpr (Nat.le_of_lt_succ l2)
  have g3 : ¬ (a / 256 % 256 > 255) := Nat.not_lt.mpr (Nat.le_of_lt_succ l3)
  simp only [decide_eq_true_eq, g1, g2, g3, Bool.or_self, Bool.false_eq_true, ↓reduceIte]
  -- `5 - (0 + 1 + 1 + 1 + 1)` is how `5 - numbers.length` comes out of unfolding `ipv4Parse` on four parts
  have g4 : ¬ (a % 256 ≥ 256 ^ (5 - (0 + 1 + 1 + 1 + 1))) := by
    have : 256 ^ (5 - (0 + 1 + 1 + 1 + 1)) = 256 := by decide
    rw [this]; exact Nat.not_le.mpr l4
  simp only [g4, ↓reduceIte, ipv4Parse.go]
  have e3 : 256 ^ (3 - 0) = 16777216 := by decide
  have e2 : 256 ^ (3 - (0 + 1)) = 65536 := by decide
  have e1 : 256 ^ (3 - (0 + 1 + 1)) = 256 := by decide
  rw [e3, e2, e1]
  simp [quad_sum a ha]

/-- a serialized IPv4 address "ends in a number", so the host parser routes it to the IPv4 parser -/
theorem ipv4_endsInANumber (a : Nat) : endsInANumber (ipv4Serialize a) = true := by
  unfold endsInANumber
  rw [split_serialized]
  have l4 : a % 256 < 256 := Nat.mod_lt _ (by decide)
  have hne := part_ne_nil _ l4
  have hd := part_digits _ l4
  simp only [List.getLast?_cons_cons, List.getLast?_singleton]
  have : (some (natToDec (a % 256)) == some ([] : Bytes)) = false := by
    simp only [beq_eq_false_iff_ne, ne_eq, Option.some.injEq]; exact hne
  simp only [this, Bool.false_eq_true, ↓reduceIte, List.getLast?_cons_cons, List.getLast?_singleton]
  have : (natToDec (a % 256)).isEmpty = false := by
    cases h : natToDec (a % 256) with
    | nil => exact absurd h hne
    | cons => rfl
  simp [this, hd]

end AdaVerif.Lemmas
