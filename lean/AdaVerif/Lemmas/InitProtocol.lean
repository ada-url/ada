import AdaVerif.Model.InitProtocol
/-
Safety of the lazy-initialisation protocol for every interleaving and any number of threads:
in every reachable state of the expected configuration no data race on the table pointers has
occurred, every thread that uses the tables has the pointer writes in its happens-before view,
and at most one thread ever initialises.

The invariant is the protocol's own state machine, read off the modification order of the atomic:
`[UNINIT]`, then `[UNINIT, IN_PROGRESS]` while the one thread that won the CAS initialises, then a
third and last message, `READY` (carrying the pointer writes) or `FAILED`.
-/
namespace AdaVerif.Lemmas.Init
open AdaVerif.Model.Init

/-- the program points of the thread that won the CAS, up to its READY store -/
def active : Pc → Bool
  | .alloc | .writes | .publish => true
  | _ => false

structure Idle (x : Thread) : Prop where
  inactive : active x.pc = false
  notUse : x.pc ≠ .use

def Served (x : Thread) : Prop := Idle x ∨ (x.pc = .use ∧ x.view = true)

/-- the initialising thread: it has stored the pointers exactly when it stands before the READY store -/
def Owner (writers : Nat) (x : Thread) : Prop :=
  active x.pc = true ∧ (x.pc ≠ .publish → writers = 0) ∧ (x.pc = .publish → writers = 1 ∧ x.view = true)

inductive Phase (s : State) : Prop
  | fresh : s.mo = [⟨uninit, false⟩] → s.writers = 0 → s.readers = 0 → (∀ u, Idle (s.th u)) → Phase s
  | busy (t : Nat) (v : Bool) : s.mo = [⟨uninit, false⟩, ⟨inProgress, v⟩] → s.readers = 0 → Owner s.writers (s.th t) →
      (∀ u, u ≠ t → Idle (s.th u)) → Phase s
  | done (v : Bool) : s.mo = [⟨uninit, false⟩, ⟨inProgress, v⟩, ⟨ready, true⟩] → s.writers = 1 →
      (∀ u, Served (s.th u)) → Phase s
  | gaveUp (v w : Bool) : s.mo = [⟨uninit, false⟩, ⟨inProgress, v⟩, ⟨failed, w⟩] → (∀ u, Idle (s.th u)) → Phase s

structure Inv (s : State) : Prop where
  norace : s.race = false
  phase : Phase s

@[simp] theorem set_mo (s : State) (t : Nat) (x : Thread) : (s.set t x).mo = s.mo := rfl
@[simp] theorem set_writers (s : State) (t : Nat) (x : Thread) : (s.set t x).writers = s.writers := rfl
@[simp] theorem set_readers (s : State) (t : Nat) (x : Thread) : (s.set t x).readers = s.readers := rfl
@[simp] theorem set_race (s : State) (t : Nat) (x : Thread) : (s.set t x).race = s.race := rfl

theorem set_same (s : State) (t : Nat) (x : Thread) : (s.set t x).th t = x := if_pos rfl
theorem set_other (s : State) (t u : Nat) (x : Thread) (h : u ≠ t) : (s.set t x).th u = s.th u := if_neg h

theorem others_set {P : Thread → Prop} {s : State} {t : Nat} (x : Thread) (h : ∀ u, u ≠ t → P (s.th u)) (u : Nat)
    (hu : u ≠ t) : P ((s.set t x).th u) := by
  rw [set_other _ _ _ _ hu]
  exact h u hu

theorem forall_set {P : Thread → Prop} {s : State} {t : Nat} {x : Thread} (hx : P x) (h : ∀ u, u ≠ t → P (s.th u))
    (u : Nat) : P ((s.set t x).th u) := by
  by_cases hu : u = t
  · rw [hu, set_same]
    exact hx
  · exact others_set x h u hu

theorem Idle.of_pc {x : Thread} {p : Pc} (h : x.pc = p) (h1 : active p = false) (h2 : p ≠ .use) : Idle x :=
  ⟨h ▸ h1, h ▸ h2⟩

theorem idle_not_active {x : Thread} (h : Idle x) (ha : active x.pc = true) : False :=
  Bool.false_ne_true (h.1.symm.trans ha)

variable {s : State} {t : Nat}

theorem Phase.of_active (h : Phase s) (ha : active (s.th t).pc = true) :
    ∃ v, s.mo = [⟨uninit, false⟩, ⟨inProgress, v⟩] ∧ s.readers = 0 ∧ Owner s.writers (s.th t) ∧
      ∀ u, u ≠ t → Idle (s.th u) := by
  cases h with
  | fresh _ _ _ hth => exact (idle_not_active (hth t) ha).elim
  | busy t' v hmo hr hown hth =>
    by_cases e : t = t'
    · subst e
      exact ⟨v, hmo, hr, hown, hth⟩
    · exact (idle_not_active (hth t e) ha).elim
  | done _ _ _ hth =>
    rcases hth t with h | h
    · exact (idle_not_active h ha).elim
    · rw [h.1] at ha
      cases ha
  | gaveUp _ _ _ hth => exact (idle_not_active (hth t) ha).elim

theorem Phase.of_ready {m : Msg} (h : Phase s) (hm : m ∈ s.mo) (hr : m.val = ready) :
    m.view = true ∧ ∃ v, s.mo = [⟨uninit, false⟩, ⟨inProgress, v⟩, ⟨ready, true⟩] ∧ s.writers = 1 ∧
      ∀ u, Served (s.th u) := by
  cases h with
  | fresh hmo _ _ _ =>
    simp only [hmo, List.mem_singleton] at hm
    subst hm
    cases hr
  | busy _ _ hmo _ _ _ =>
    simp only [hmo, List.mem_cons, List.mem_nil_iff, or_false] at hm
    rcases hm with rfl | rfl <;> cases hr
  | done v hmo hw hth =>
    simp only [hmo, List.mem_cons, List.mem_nil_iff, or_false] at hm
    rcases hm with rfl | rfl | rfl
    · cases hr
    · cases hr
    · exact ⟨rfl, v, hmo, hw, hth⟩
  | gaveUp _ _ hmo _ =>
    simp only [hmo, List.mem_cons, List.mem_nil_iff, or_false] at hm
    rcases hm with rfl | rfl | rfl <;> cases hr

theorem Phase.of_use (h : Phase s) (hu : (s.th t).pc = .use) :
    ∃ v, s.mo = [⟨uninit, false⟩, ⟨inProgress, v⟩, ⟨ready, true⟩] ∧ s.writers = 1 ∧ (s.th t).view = true ∧
      ∀ u, Served (s.th u) := by
  cases h with
  | fresh _ _ _ hth => exact absurd hu (hth t).2
  | busy t' _ _ _ hown hth =>
    by_cases e : t = t'
    · subst e
      have := hown.1
      rw [hu] at this
      cases this
    · exact absurd hu (hth t e).2
  | done v hmo hw hth =>
    rcases hth t with h | h
    · exact absurd hu h.2
    · exact ⟨v, hmo, hw, h.2, hth⟩
  | gaveUp _ _ _ hth => exact absurd hu (hth t).2

theorem Phase.set_idle (h : Phase s) (x : Thread) (hold : Idle (s.th t)) (hx : Idle x) : Phase (s.set t x) := by
  cases h with
  | fresh hmo hw hr hth => exact .fresh hmo hw hr (forall_set hx fun u _ => hth u)
  | busy t' v hmo hr hown hth =>
    have e : t' ≠ t := fun e => idle_not_active hold (e ▸ hown.1)
    refine .busy t' v hmo hr (by rw [set_other _ _ _ _ e]; exact hown) (fun u hu => ?_)
    by_cases e : u = t
    · rw [e, set_same]
      exact hx
    · rw [set_other _ _ _ _ e]
      exact hth u hu
  | done v hmo hw hth => exact .done v hmo hw (forall_set (Or.inl hx) fun u _ => hth u)
  | gaveUp v w hmo hth => exact .gaveUp v w hmo (forall_set hx fun u _ => hth u)

theorem inv_init : Inv init := ⟨rfl, .fresh rfl rfl rfl fun _ => ⟨rfl, nofun⟩⟩

theorem afterLoad_cases (v : Nat) (sp : Option Nat) (l : Nat) :
    (afterLoad v sp l = .use ∧ v = ready) ∨ (active (afterLoad v sp l) = false ∧ afterLoad v sp l ≠ .use) := by
  unfold afterLoad
  split
  · exact Or.inl ⟨rfl, ‹v = ready›⟩
  · right
    split
    · exact ⟨rfl, nofun⟩
    · split
      · exact ⟨rfl, nofun⟩
      · split
        · exact ⟨rfl, nofun⟩
        · exact ⟨rfl, nofun⟩

theorem phase_load (s : State) (t i : Nat) (m : Msg) (npc : Pc) (o : Ord) (ho : o.isAcq = true)
    (h : Phase s) (hm : m ∈ s.mo) (hold : Idle (s.th t)) (hn : (npc = .use ∧ m.val = ready) ∨ (active npc = false ∧ npc ≠ .use)) :
    Phase (s.set t { pc := npc, seen := i, view := (s.th t).view || (o.isAcq && m.view) }) := by
  rcases hn with ⟨hn, hr⟩ | hn
  · obtain ⟨hv, v, hmo, hw, hth⟩ := h.of_ready hm hr
    exact .done v hmo hw (forall_set (Or.inr ⟨hn, by simp [ho, hv]⟩) fun u _ => hth u)
  · exact h.set_idle _ hold ⟨hn.1, hn.2⟩

/-- what the proof needs of the configuration: the CAS expects UNINIT, the loads that can observe READY acquire, and
    READY is stored with release after the pointer stores.  The orders of the CAS and of the FAILED stores play no part. -/
structure Sound (c : Config) : Prop where
  casExpectsUninit : c.casExpectsUninit = true
  firstLoad : c.firstLoad.isAcq = true
  spinLoad : c.spinLoad.isAcq = true
  readyStore : c.readyStore.isRel = true
  readyAfterWrites : c.readyAfterWrites = true

theorem expected_sound (limit : Nat) : Sound (expected limit) := ⟨rfl, rfl, rfl, rfl, rfl⟩

theorem inv_step (c : Config) (hc : Sound c) (s s' : State) (hI : Inv s) (hs : Step c s s') : Inv s' := by
  obtain ⟨hrace, hph⟩ := hI
  cases hs with
  | firstLoad t i m hpc hi hm =>
    exact ⟨hrace, phase_load s t i m _ _ hc.firstLoad hph (List.mem_of_getElem? hm) (.of_pc hpc rfl nofun)
      (afterLoad_cases _ _ _)⟩
  | spinLoad t n i m hpc hi hm =>
    exact ⟨hrace, phase_load s t i m _ _ hc.spinLoad hph (List.mem_of_getElem? hm) (.of_pc hpc rfl nofun)
      (afterLoad_cases _ _ _)⟩
  | casFail t v m hpc hm hexp => exact ⟨hrace, hph.set_idle _ (.of_pc hpc rfl nofun) ⟨rfl, nofun⟩⟩
  | casOk t v m hpc hm hexp =>
    -- the CAS read the last message and found `uninit`: only the first message has that value
    rw [hc.casExpectsUninit, if_pos rfl] at hexp
    cases hph with
    | fresh hmo hw hr hth =>
      exact ⟨hrace, .busy t _ (congrArg (· ++ [_]) hmo) hr (by rw [set_same]; exact ⟨rfl, fun _ => hw, nofun⟩)
        (others_set _ fun u _ => hth u)⟩
    | busy _ _ hmo | done _ hmo | gaveUp _ _ hmo =>
      rw [hmo] at hm
      cases hm
      cases hexp
  | allocOk t hpc =>
    obtain ⟨v, hmo, hr, ⟨_, hw0, _⟩, hth⟩ := hph.of_active (by rw [hpc]; rfl)
    exact ⟨hrace, .busy t v hmo hr (by rw [set_same]; exact ⟨rfl, fun _ => hw0 (by rw [hpc]; nofun), nofun⟩)
      (others_set _ hth)⟩
  | allocFail t hpc | crcFail t hpc =>
    obtain ⟨v, hmo, _, _, hth⟩ := hph.of_active (by rw [hpc]; rfl)
    exact ⟨hrace, .gaveUp v _ (congrArg (· ++ [_]) hmo) (forall_set ⟨rfl, nofun⟩ hth)⟩
  | write t hpc =>
    obtain ⟨v, hmo, hr, ⟨_, hw0, _⟩, hth⟩ := hph.of_active (by rw [hpc]; rfl)
    have hw := hw0 (by rw [hpc]; nofun)
    refine ⟨?_, .busy t v hmo hr ?_ (others_set _ hth)⟩
    · simp [hrace, hw, hr]
    · rw [set_same]
      exact ⟨rfl, fun h => absurd rfl h, fun _ => ⟨by simp [hw], rfl⟩⟩
  | publish t hpc =>
    obtain ⟨v, hmo, hr, ⟨_, _, hw1⟩, hth⟩ := hph.of_active (by rw [hpc]; rfl)
    obtain ⟨hw, hv⟩ := hw1 hpc
    -- a release store placed after the plain stores carries the writer's view
    refine ⟨hrace, .done v ?_ hw (forall_set (Or.inr ⟨rfl, hv⟩) fun u hu => Or.inl (hth u hu))⟩
    simp [hmo, hv, hc.readyStore, hc.readyAfterWrites]
  | useTables t hpc =>
    obtain ⟨v, hmo, hw, hv, hth⟩ := hph.of_use hpc
    exact ⟨by simp [hrace, hv, hw], .done v hmo hw hth⟩

theorem reachable_inv (c : Config) (hc : Sound c) (s : State) (h : Reachable c s) : Inv s := by
  induction h with
  | init => exact inv_init
  | step s s' _ hs ih => exact inv_step c hc s s' ih hs

namespace Inv
variable {s : State}

theorem one_initialiser (hI : Inv s) (t u : Nat) (ht : active (s.th t).pc = true) (hu : active (s.th u).pc = true) : t = u := by
  obtain ⟨_, _, _, _, hth⟩ := hI.phase.of_active ht
  exact Classical.byContradiction fun e => idle_not_active (hth u (Ne.symm e)) hu

theorem user_sees_tables (hI : Inv s) (t : Nat) (hu : (s.th t).pc = .use) : (s.th t).view = true ∧ s.writers = 1 := by
  obtain ⟨_, _, hw, hv, _⟩ := hI.phase.of_use hu
  exact ⟨hv, hw⟩

theorem ready_has_view (hI : Inv s) (m : Msg) (hm : m ∈ s.mo) (hr : m.val = ready) : m.view = true :=
  (hI.phase.of_ready hm hr).1

end Inv

end AdaVerif.Lemmas.Init
