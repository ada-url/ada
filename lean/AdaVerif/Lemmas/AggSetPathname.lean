import AdaVerif.Props.C07
import AdaVerif.Lemmas.AggPathname
import AdaVerif.Lemmas.UrlSetters
import AdaVerif.Lemmas.ParseCanon
/-
`url_aggregator::set_pathname` end to end: clear_pathname, parse_path (update_base_pathname / consume_prepared_path with
its in-place shortcut), the "/." fix-up, the limit check with roll-back - equal to the Standard's pathname setter on the
buffer of every record.
-/
namespace AdaVerif.Lemmas.AggL
open AdaVerif AdaVerif.Model AdaVerif.Model.Agg AdaVerif.Lemmas.FP AdaVerif.Lemmas.PP AdaVerif.Props.C07

theorem pathState_noSlash (scheme : Bytes) (input : Bytes) : NoSlash (Spec.pathState scheme [] input) := by
  unfold Spec.pathState
  have h := (PC.pathSegments_ok scheme (Spec.splitPath (Spec.isSpecialScheme scheme) input) []
    (PC.splitPath_sepfree _ input) (by intro s hs; cases hs) (by intro _ s hs; simp at hs)).1
  intro s hs hmem
  have := (h s hs).sep 0x2F hmem
  simp [FP.isSep] at this

/-- what `parse_path` leaves: the new path, with a "/." guard or (after the in-place shortcut) without -/
theorem dashDotFixup_layout (l0 : L) (X : Bytes) (d1 : Bool) (hopq : l0.opq = false) (hna : NoAuthNoCred l0)
    (hport : l0.auth = false → l0.port = none)
    (hd1 : d1 = false ∨ d1 = (startsWithSlashSlash X && !l0.auth)) :
    (let a1 := layout { l0 with dashdot := d1, path := X }
     if startsWithSlashSlash (getPathname a1) && !hasAuthority a1 && !hasDashDot a1 then insertDashDot a1 else a1) =
      layout { l0 with dashdot := startsWithSlashSlash X && !l0.auth, path := X } := by
  have hna1 : NoAuthNoCred { l0 with dashdot := d1, path := X } := hna
  have hdd1 : DashDotOk { l0 with dashdot := d1, path := X } := by
    intro hd
    have hd' : d1 = true := hd
    rcases hd1 with h | h
    · rw [h] at hd'; cases hd'
    · rw [h] at hd'
      simp only [Bool.and_eq_true, Bool.not_eq_true'] at hd'
      exact ⟨hd'.2, hopq, hport hd'.2⟩
  simp only [getPathname_layout, hasAuthority_layout _ hna1, hasDashDot_layout _ hdd1]
  rcases hd1 with rfl | rfl
  · -- no guard yet: it is inserted exactly when the new path needs one
    cases hc : startsWithSlashSlash X && !l0.auth
    · simp only [Bool.false_and, Bool.false_eq_true, ↓reduceIte]
    · simp only [Bool.not_false, Bool.and_self, ↓reduceIte]
      exact insertDashDot_layout _ rfl
  · -- the guard is there already
    simp only [Bool.and_not_self, Bool.false_eq_true, ↓reduceIte]

theorem consume_cleared (l0 : L) (scheme : Bytes) (ty : Nat) (hty : TyOf scheme ty) (inp : Bytes)
    (hpath : l0.path = []) (hdash : l0.dashdot = false) (hopq : l0.opq = false) (hna : NoAuthNoCred l0) :
    ∃ d1, (d1 = false ∨ d1 = (startsWithSlashSlash (pathText (Spec.pathState scheme [] inp)) && !l0.auth)) ∧
      consumePreparedPath (layout l0) ty inp = layout { l0 with dashdot := d1, path := pathText (Spec.pathState scheme [] inp) } := by
  have hdd0 : DashDotOk l0 := by intro h; rw [hdash] at h; cases h
  rw [consume_prepared_path_layout l0 ty inp hna hdd0]
  have hX : Model.PathPrepared.pathLoops inp ty l0.path = pathText (Spec.pathState scheme [] inp) := by
    rw [hpath]
    have := pathLoops_eq scheme ty hty inp [] (by intro s hs; cases hs)
    simpa [pathText, Spec.pathState] using this
  split
  · rename_i hc
    simp only [Bool.and_eq_true] at hc
    have ht := trivial_sound scheme ty hty inp [] hc.1
    have ht' : (0x2F : UInt8) :: inp = pathText (Spec.pathState scheme [] inp) := by simpa [pathText, Spec.pathState] using ht
    refine ⟨false, Or.inl rfl, ?_⟩
    rw [ht']
    congr 1
    -- the guard bit was clear already
    cases l0
    simp only at hdash
    subst hdash
    rfl
  · refine ⟨_, Or.inr rfl, ?_⟩
    rw [hX]
    congr 1
    simp only [newDashDot, hdash, hopq, Bool.false_or, Bool.not_false, Bool.true_and]
    cases hs : startsWithSlashSlash (pathText (Spec.pathState scheme [] inp)) <;> simp

theorem noAuth_ofUrl (u : Spec.Url) (ok : CredOk u) (ha : (ofUrl u).auth = false) :
    u.username = [] ∧ u.password = [] ∧ u.port = none :=
  ok.hostless (by cases h : u.host <;> simp_all [ofUrl])

theorem noAuthNoCred_ofUrl (u : Spec.Url) (ok : CredOk u) : NoAuthNoCred (ofUrl u) := fun ha =>
  ⟨(noAuth_ofUrl u ok ha).1, (noAuth_ofUrl u ok ha).2.1⟩

theorem dashDotOk_ofUrl (u : Spec.Url) (ok : CredOk u) : DashDotOk (ofUrl u) := by
  intro hd
  simp only [ofUrl, Bool.and_eq_true, Bool.not_eq_true', Option.isNone_iff_eq_none] at hd
  obtain ⟨⟨⟨hn, ho⟩, _⟩, _⟩ := hd
  obtain ⟨_, _, hp⟩ := ok.hostless hn
  exact ⟨by simp [ofUrl, hn], ho, by simp [ofUrl, hp]⟩

theorem parsePath_layout (ty : Nat) (u : Spec.Url) (v : Bytes) (ok : CredOk u) (hty : TyOf u.scheme ty) (ho : u.isOpaque = false) :
    ∃ d1, (d1 = false ∨ d1 = (startsWithSlashSlash (pathText (Spec.setPathname u v).path) && !(ofUrl u).auth)) ∧
      parsePathA ty u.isSpecial (layout { ofUrl u with dashdot := false, path := [] }) v =
        layout { ofUrl u with dashdot := d1, path := pathText (Spec.setPathname u v).path } ∧
      NoSlash (Spec.setPathname u v).path := by
  have hna0 : NoAuthNoCred { ofUrl u with dashdot := false, path := [] } := noAuthNoCred_ofUrl u ok
  have hopq : ({ ofUrl u with dashdot := false, path := [] } : L).opq = false := ho
  have cons := fun inp =>
    (consume_cleared { ofUrl u with dashdot := false, path := [] } u.scheme ty hty inp rfl rfl hopq hna0).imp
      fun _ h => And.intro h.1 (And.intro h.2 (pathState_noSlash u.scheme inp))
  have hdd0 : DashDotOk { ofUrl u with dashdot := false, path := [] } := by intro h; cases h
  have hslash : updateBasePathname (layout { ofUrl u with dashdot := false, path := [] }) [0x2F] =
      layout { ofUrl u with dashdot := false, path := [0x2F] } := by
    rw [updateBasePathname_layout _ _ hna0 hdd0]
    simp [newDashDot, startsWithSlashSlash]
  unfold parsePathA Spec.setPathname
  simp only [ho, Bool.false_eq_true, ↓reduceIte]
  by_cases hs : u.isSpecial = true
  · simp only [hs, ↓reduceIte]
    cases ht : Spec.stripTN v with
    | nil =>
      simp only
      refine ⟨false, Or.inl rfl, ?_, ?_⟩
      · rw [hslash, UR.pathState_nil]; rfl
      · rw [UR.pathState_nil]; intro s hs; simp at hs; subst hs; simp
    | cons c rest =>
      simp only
      split
      · exact cons rest
      · exact cons (c :: rest)
  · simp only [hs, Bool.false_eq_true, ↓reduceIte]
    cases ht : Spec.stripTN v with
    | nil =>
      simp only
      have hauth : hasAuthority (layout { ofUrl u with dashdot := false, path := [] }) = u.host.isSome := by
        rw [hasAuthority_layout _ hna0]; rfl
      -- the host range does not see the path: the offsets of this record are those of `ofUrl u` by definition
      have hregion : ((layout { ofUrl u with dashdot := false, path := [] }).hs == (layout { ofUrl u with dashdot := false, path := [] }).he) =
          (u.host == none || u.host == some .empty) := hostRegionEmpty_layout u ok
      cases hh : u.host with
      | none =>
        have hcond : ((layout { ofUrl u with dashdot := false, path := [] }).hs == (layout { ofUrl u with dashdot := false, path := [] }).he &&
            !hasAuthority (layout { ofUrl u with dashdot := false, path := [] })) = true := by
          rw [hauth, hregion, hh]
          rfl
        simp only [hcond, ↓reduceIte, Option.isNone_none]
        refine ⟨false, Or.inl rfl, ?_, ?_⟩
        · rw [hslash]; rfl
        · intro s hs; simp at hs; subst hs; simp
      | some h =>
        have hcond : ((layout { ofUrl u with dashdot := false, path := [] }).hs == (layout { ofUrl u with dashdot := false, path := [] }).he &&
            !hasAuthority (layout { ofUrl u with dashdot := false, path := [] })) = false := by
          rw [hauth, hh]
          exact Bool.and_false _
        simp only [hcond, Bool.false_eq_true, ↓reduceIte, Option.isNone_some]
        refine ⟨false, Or.inl rfl, rfl, ?_⟩
        intro s hs; cases hs
    | cons c rest =>
      simp only
      split
      · exact cons rest
      · exact cons (c :: rest)

theorem ofUrl_setPathname (u : Spec.Url) (v : Bytes) (ho : u.isOpaque = false) (hn : NoSlash (Spec.setPathname u v).path) :
    ofUrl (Spec.setPathname u v) =
      { ofUrl u with dashdot := startsWithSlashSlash (pathText (Spec.setPathname u v).path) && !(ofUrl u).auth,
                     path := pathText (Spec.setPathname u v).path } := by
  have hd := UR.dashdot_eq (Spec.setPathname u v).path hn
  have hk : ∀ p : List Bytes, ofUrl ({ u with path := p } : Spec.Url) =
      { ofUrl u with dashdot := u.host.isNone && decide (p.length > 1) && p.head? == some [], path := pathText p } := by
    intro p
    simp [ofUrl, Spec.Url.pathSerialized, ho, pathText]
  have hsp : Spec.setPathname u v = { u with path := (Spec.setPathname u v).path } := by
    unfold Spec.setPathname
    simp only [ho, Bool.false_eq_true, ↓reduceIte]
  rw [hsp, hk]
  simp only
  have hd' : startsWithSlashSlash (pathText (Spec.setPathname u v).path) =
      (decide ((Spec.setPathname u v).path.length > 1) && (Spec.setPathname u v).path.head? == some []) := hd
  rw [hd']
  congr 1
  cases hh : u.host <;> simp [ofUrl, hh, Bool.and_comm]

theorem setPathname_end_to_end (L ty : Nat) (u : Spec.Url) (v : Bytes) (ok : CredOk u) (hty : TyOf u.scheme ty) :
    setPathnameM L ty u.isSpecial (layout (ofUrl u)) v =
      if u.isOpaque then (layout (ofUrl u), false)
      else if (layout (ofUrl (Spec.setPathname u v))).buf.length ≤ L then (layout (ofUrl (Spec.setPathname u v)), true)
      else (layout (ofUrl u), false) := by
  unfold setPathnameM
  have hopq : (layout (ofUrl u)).opq = u.isOpaque := rfl
  rw [hopq]
  cases ho : u.isOpaque
  · simp only [Bool.false_eq_true, ↓reduceIte]
    rw [clearPathname_layout (ofUrl u) (dashDotOk_ofUrl u ok)]
    obtain ⟨d1, hd1, hpp, hns⟩ := parsePath_layout ty u v ok hty ho
    rw [hpp]
    have hfix := dashDotFixup_layout { ofUrl u with dashdot := false, path := [] } (pathText (Spec.setPathname u v).path) d1
      ho (noAuthNoCred_ofUrl u ok)
      (fun ha => by simp [ofUrl, (noAuth_ofUrl u ok ha).2.2])
      hd1
    simp only at hfix
    rw [hfix, ← ofUrl_setPathname u v ho hns, UR.ite_gt]
  · simp

end AdaVerif.Lemmas.AggL
