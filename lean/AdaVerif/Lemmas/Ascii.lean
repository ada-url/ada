import AdaVerif.Spec.Setters
/-
Bytes of encoded components.  The Standard's percent-encode sets are nested (C0 ⊆ fragment, C0 ⊆ query ⊆
special-query, query ⊆ path ⊆ userinfo), so what a byte outside a set cannot be is read off the definitions; what
`percentEncode` writes is a byte outside its set, `%` or an upper-case hex digit (`HC.mem_percentEncode`), and those
belong to no set (`HC.pctb_facts`).  Printability, idempotence and "no new delimiter" all follow from these.
-/
namespace AdaVerif.Lemmas
open AdaVerif AdaVerif.Spec

def printable (b : UInt8) : Bool := 0x21 ≤ b.toNat && b.toNat ≤ 0x7E
def printableSp (b : UInt8) : Bool := 0x20 ≤ b.toNat && b.toNat ≤ 0x7E

theorem notFragment {b : UInt8} (h : inFragment b = false) : inC0 b = false ∧ b ≠ 0x20 := by
  simp [inFragment] at h; simp [h]
theorem notQuery {b : UInt8} (h : inQuery b = false) : inC0 b = false ∧ b ≠ 0x20 ∧ b ≠ 0x23 := by
  simp [inQuery] at h; simp [h]
theorem notSpecialQuery {b : UInt8} (h : inSpecialQuery b = false) : inQuery b = false := by
  simp [inSpecialQuery] at h; simp [h]
theorem notPath {b : UInt8} (h : inPath b = false) : inQuery b = false ∧ b ≠ 0x3F := by
  simp [inPath] at h; simp [h]
theorem notUserinfo {b : UInt8} (h : inUserinfo b = false) :
    inPath b = false ∧ b ≠ 0x2F ∧ b ≠ 0x3A ∧ b ≠ 0x40 ∧ b ≠ 0x5B ∧ b ≠ 0x5C ∧ b ≠ 0x5D ∧ b ≠ 0x7C := by
  simp [inUserinfo] at h; simp [h]

theorem c0_subset {b : UInt8} (h : inC0 b = true) :
    inFragment b = true ∧ inQuery b = true ∧ inSpecialQuery b = true ∧ inPath b = true ∧ inUserinfo b = true := by
  simp [inFragment, inQuery, inSpecialQuery, inPath, inUserinfo, h]

theorem notC0_printableSp : ∀ b : UInt8, inC0 b = false → printableSp b = true := by
  apply forall_uint8_of_fin; decide +kernel

theorem printable_of_sp (b : UInt8) (h : printableSp b = true) (h20 : b ≠ 0x20) : printable b = true := by
  have : b.toNat ≠ 0x20 := fun e => h20 (UInt8.toNat_inj.1 e)
  simp only [printable, printableSp, Bool.and_eq_true, decide_eq_true_eq] at h ⊢
  omega

/-! `toLowerByte`: it changes upper-case letters only, into the lower-case letter 32 above; everything the development
    needs about it follows from `Lower.cases`. -/
namespace Lower

theorem of_upper : ∀ b : UInt8, isAsciiUpper b = true →
    isAsciiLower (toLowerByte b) = true ∧ (toLowerByte b).toNat = b.toNat + 32 := by
  apply forall_uint8_of_fin; decide +kernel

theorem of_not_upper (b : UInt8) (h : isAsciiUpper b = false) : toLowerByte b = b := by
  simp [toLowerByte, h]

theorem cases (b : UInt8) :
    (isAsciiUpper b = false ∧ toLowerByte b = b) ∨
    (isAsciiUpper b = true ∧ isAsciiLower (toLowerByte b) = true ∧ (toLowerByte b).toNat = b.toNat + 32) := by
  cases h : isAsciiUpper b
  · exact Or.inl ⟨rfl, of_not_upper b h⟩
  · exact Or.inr ⟨rfl, of_upper b h⟩

theorem not_upper (b : UInt8) : isAsciiUpper (toLowerByte b) = false := by
  rcases cases b with ⟨h, e⟩ | ⟨_, h, _⟩
  · rw [e, h]
  · simp only [isAsciiLower, isAsciiUpper, Bool.and_eq_true, decide_eq_true_eq, Bool.and_eq_false_iff,
      decide_eq_false_iff_not] at h ⊢
    omega

theorem idem (b : UInt8) : toLowerByte (toLowerByte b) = toLowerByte b :=
  of_not_upper _ (not_upper b)

theorem ascii (b : UInt8) (h : b.toNat < 0x80) : (toLowerByte b).toNat < 0x80 := by
  rcases cases b with ⟨_, e⟩ | ⟨hu, _, e⟩
  · rw [e]; exact h
  · simp only [isAsciiUpper, Bool.and_eq_true, decide_eq_true_eq] at hu
    omega

theorem of_alpha (b : UInt8) (h : isAsciiAlpha b = true) : isAsciiLower (toLowerByte b) = true := by
  rcases cases b with ⟨hu, e⟩ | ⟨_, hl, _⟩
  · rw [e]; simpa [isAsciiAlpha, hu] using h
  · exact hl

theorem eq_iff (b c : UInt8) (hc : isAsciiAlpha c = false) : toLowerByte b = c ↔ b = c := by
  rcases cases b with ⟨_, e⟩ | ⟨hu, hl, _⟩
  · rw [e]
  · constructor
    · intro e; rw [e] at hl; simp [isAsciiAlpha, hl] at hc
    · intro e; rw [e] at hu; simp [isAsciiAlpha, hu] at hc

theorem beq (b c : UInt8) (hc : isAsciiAlpha c = false) : (toLowerByte b == c) = (b == c) := by
  rw [Bool.eq_iff_iff]; simpa using eq_iff b c hc
end Lower

/-! `HC` is the namespace of `Lemmas/HostCanon.lean`; these lemmas are used throughout under that name. -/
namespace HC

theorem mem_percentEncode (p : UInt8 → Bool) (s : Bytes) (b : UInt8) (h : b ∈ percentEncode p s) :
    (b ∈ s ∧ p b = false) ∨ b = 0x25 ∨ ∃ n, n < 16 ∧ b = hexUpper n := by
  simp only [percentEncode, List.mem_flatMap] at h
  obtain ⟨a, ha, hb⟩ := h
  split at hb
  · simp only [pctByte, List.mem_cons, List.not_mem_nil, or_false] at hb
    rcases hb with rfl | rfl | rfl
    · right; left; rfl
    · right; right; exact ⟨_, by have := a.toNat_lt; omega, rfl⟩
    · right; right; exact ⟨_, Nat.mod_lt _ (by decide), rfl⟩
  · rename_i hp
    simp only [List.mem_singleton] at hb; subst hb
    left; exact ⟨ha, by simpa using hp⟩

theorem pctb_facts (b : UInt8) (h : b = 0x25 ∨ ∃ n, n < 16 ∧ b = hexUpper n) :
    inC0 b = false ∧ inFragment b = false ∧ inQuery b = false ∧ inSpecialQuery b = false ∧ inPath b = false ∧
    inUserinfo b = false ∧ isForbiddenHost b = false ∧ b ≠ 0x2F ∧ b ≠ 0x5C ∧ b ≠ 0x3F ∧ b ≠ 0x23 := by
  have t : ∀ n : Fin 16, inC0 (hexUpper n.val) = false ∧ inFragment (hexUpper n.val) = false ∧ inQuery (hexUpper n.val) = false ∧
      inSpecialQuery (hexUpper n.val) = false ∧ inPath (hexUpper n.val) = false ∧ inUserinfo (hexUpper n.val) = false ∧
      isForbiddenHost (hexUpper n.val) = false ∧ hexUpper n.val ≠ 0x2F ∧ hexUpper n.val ≠ 0x5C ∧ hexUpper n.val ≠ 0x3F ∧
      hexUpper n.val ≠ 0x23 := by decide +kernel
  rcases h with rfl | ⟨n, hn, rfl⟩
  · decide
  · exact t ⟨n, hn⟩

theorem pctb_printable (b : UInt8) (h : b = 0x25 ∨ ∃ n, n < 16 ∧ b = hexUpper n) : printable b = true := by
  have t : ∀ n : Fin 16, printable (hexUpper n.val) = true := by decide
  rcases h with rfl | ⟨n, hn, rfl⟩
  · decide
  · exact t ⟨n, hn⟩

theorem percentEncode_clean (p : UInt8 → Bool) (hp : ∀ b, (b = 0x25 ∨ ∃ n, n < 16 ∧ b = hexUpper n) → p b = false) (s : Bytes) :
    ∀ b ∈ percentEncode p s, p b = false := by
  intro b hb
  rcases mem_percentEncode p s b hb with h | h
  · exact h.2
  · exact hp b h

end HC

theorem percentEncode_append (p : UInt8 → Bool) (a c : Bytes) :
    percentEncode p (a ++ c) = percentEncode p a ++ percentEncode p c := by
  simp [percentEncode, List.flatMap_append]

theorem percentEncode_ne_nil (p : UInt8 → Bool) (s : Bytes) (h : s ≠ []) : percentEncode p s ≠ [] := by
  cases s with
  | nil => exact absurd rfl h
  | cons a t =>
    simp only [percentEncode, List.flatMap_cons]
    split <;> simp [pctByte]

theorem percentEncode_printableSp (p : UInt8 → Bool) (hp : ∀ b, inC0 b = true → p b = true) (s : Bytes) :
    (percentEncode p s).all printableSp = true := by
  simp only [List.all_eq_true]
  intro b hb
  rcases HC.mem_percentEncode p s b hb with h | h
  · apply notC0_printableSp
    cases hc : inC0 b with
    | false => rfl
    | true => rw [hp b hc] at h; cases h.2
  · have := HC.pctb_printable b h
    simp only [printable, printableSp, Bool.and_eq_true, decide_eq_true_eq] at this ⊢
    omega

theorem percentEncode_printable (p : UInt8 → Bool) (hp : ∀ b, inC0 b = true → p b = true)
    (hsp : p 0x20 = true) (s : Bytes) : (percentEncode p s).all printable = true := by
  have hS := percentEncode_printableSp p hp s
  simp only [List.all_eq_true] at hS ⊢
  intro b hb
  rcases HC.mem_percentEncode p s b hb with h | h
  · exact printable_of_sp b (hS b hb) (fun e => by rw [e, hsp] at h; cases h.2)
  · exact HC.pctb_printable b h

theorem percentEncode_idem (p : UInt8 → Bool) (hp : ∀ b, (b = 0x25 ∨ ∃ n, n < 16 ∧ b = hexUpper n) → p b = false)
    (s : Bytes) : percentEncode p (percentEncode p s) = percentEncode p s := by
  induction s with
  | nil => rfl
  | cons b rest ih =>
    rw [show b :: rest = [b] ++ rest from rfl, percentEncode_append, percentEncode_append, ih]
    congr 1
    simp only [percentEncode, List.flatMap_cons, List.flatMap_nil, List.append_nil]
    split
    · have h1 := hp _ (Or.inr ⟨b.toNat / 16, by have := b.toNat_lt; omega, rfl⟩)
      have h2 := hp _ (Or.inr ⟨b.toNat % 16, by omega, rfl⟩)
      simp [pctByte, hp 0x25 (Or.inl rfl), h1, h2]
    · rename_i hpb
      simp [hpb]

/-- encoding never makes a trailing space: an escape ends in a hex digit -/
theorem percentEncode_last (p : UInt8 → Bool) (s : Bytes) (h : s.getLast? ≠ some 0x20) :
    (percentEncode p s).getLast? ≠ some 0x20 := by
  by_cases hne : s = []
  · subst hne; simp [percentEncode]
  · obtain ⟨init, c, rfl⟩ : ∃ init c, s = init ++ [c] := ⟨_, _, (List.dropLast_concat_getLast hne).symm⟩
    have hc : c ≠ 0x20 := by simpa using h
    rw [percentEncode_append]
    simp only [percentEncode, List.flatMap_cons, List.flatMap_nil, List.append_nil]
    split
    · have hx : ∀ n, n < 16 → hexUpper n ≠ 0x20 := by decide
      simpa [pctByte] using hx _ (Nat.mod_lt _ (by decide))
    · simpa using hc

end AdaVerif.Lemmas
