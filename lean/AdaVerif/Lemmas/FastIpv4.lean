import AdaVerif.Lemmas.FastSpec
import AdaVerif.Model.FastScan
import AdaVerif.Lemmas.Radix
/-
C08: the decimal IPv4 kernel of the fast scanner (`parse_ipv4_decimal_scalar`) only accepts texts the Standard's
IPv4 parser accepts, and those texts end in a number.
-/
namespace AdaVerif.Lemmas.FS
open AdaVerif AdaVerif.Spec AdaVerif.Lemmas AdaVerif.Model.FastScan

theorem isDigit_eq (b : UInt8) : isDigit b = isAsciiDigit b := rfl

/-- the value of a digit as the C++ computes it (`c - '0'`) -/
theorem digit_val (b : UInt8) (h : isAsciiDigit b = true) : digitVal b = b.toNat - 0x30 ∧ b.toNat - 0x30 ≤ 9 := by
  have f := Radix.digit_back b h
  omega

theorem ipv4Number_dec (ds : Bytes) (hne : ds ≠ []) (hd : ∀ b ∈ ds, isAsciiDigit b = true)
    (hlead : ∀ c x rest, ds = c :: x :: rest → c ≠ 0x30) : ipv4Number ds = some (parseRadix 10 ds) := by
  have hall : ds.all (isRadixDigit 10) = true := by
    simp only [List.all_eq_true]; exact hd
  have hemp : ds.isEmpty = false := isEmpty_false_of_ne hne
  unfold ipv4Number
  simp only [hemp, Bool.false_eq_true, ↓reduceIte]
  split
  · rename_i x rest
    exact absurd rfl (hlead 0x30 x rest rfl)
  · simp only [hemp, Bool.false_eq_true, ↓reduceIte, hall]

theorem modelVal_eq (sig : Bytes) (a : Nat) (h : ∀ b ∈ sig, isAsciiDigit b = true) :
    sig.foldl (fun acc b => acc * 10 + (b.toNat - 0x30)) a = sig.foldl (fun acc b => acc * 10 + digitVal b) a := by
  induction sig generalizing a with
  | nil => rfl
  | cons c t ih =>
    simp only [List.foldl_cons]
    rw [(digit_val c (h c (by simp))).1]
    exact ih _ (fun b hb => h b (by simp [hb]))

def DecDigits (ds : Bytes) (v : Nat) : Prop :=
  ds ≠ [] ∧ (∀ b ∈ ds, isAsciiDigit b = true) ∧ ipv4Number ds = some v ∧ v ≤ 255 ∧
    ∀ c x rest, ds = c :: x :: rest → c ≠ 0x30

theorem decPart_ok (ds : Bytes) (v : Nat) (hne : ds ≠ []) (hd : ∀ b ∈ ds, isAsciiDigit b = true)
    (hlead : ∀ c x rest, ds = c :: x :: rest → ¬ (c.toNat - 0x30 == 0) = true)
    (hv : ds.foldl (fun acc b => acc * 10 + (b.toNat - 0x30)) 0 = v) (hle : v ≤ 255) : DecDigits ds v := by
  have hl : ∀ c x rest, ds = c :: x :: rest → c ≠ 0x30 := fun c x rest e hc => hlead c x rest e (by rw [hc]; rfl)
  refine ⟨hne, hd, ?_, hle, hl⟩
  rw [ipv4Number_dec ds hne hd hl, ← hv, modelVal_eq ds 0 hd]
  rfl

theorem decPart_one (c : UInt8) (hc : isDigit c = true) : DecDigits [c] (c.toNat - 0x30) := by
  have := (digit_val c hc).2
  exact decPart_ok [c] _ (by simp) (by simp [← isDigit_eq, hc]) (fun _ _ _ e => by cases e)
    (by simp only [List.foldl_cons, List.foldl_nil, Nat.zero_mul, Nat.zero_add]) (by omega)

theorem decPart_two (c c1 : UInt8) (hc : isDigit c = true) (hc1 : isDigit c1 = true) (h0 : ¬ (c.toNat - 0x30 == 0) = true) :
    DecDigits [c, c1] ((c.toNat - 0x30) * 10 + (c1.toNat - 0x30)) := by
  have := (digit_val c hc).2
  have := (digit_val c1 hc1).2
  exact decPart_ok [c, c1] _ (by simp) (by simp [← isDigit_eq, hc, hc1]) (fun _ _ _ e => by cases e; exact h0)
    (by simp only [List.foldl_cons, List.foldl_nil, Nat.zero_mul, Nat.zero_add]) (by omega)

theorem decPart_lead (p : Bytes) (v : Nat) (p' : Bytes) (h : decPart p = some (v, p')) :
    ∃ ds, p = ds ++ p' ∧ ds ≠ [] ∧ (∀ b ∈ ds, isAsciiDigit b = true) ∧ ipv4Number ds = some v ∧ v ≤ 255 ∧
      ∀ c x rest, ds = c :: x :: rest → c ≠ 0x30 := by
  suffices ∀ r, decPart p = some r → ∃ ds, p = ds ++ r.2 ∧ DecDigits ds r.1 from this _ h
  clear h
  fun_cases decPart p
  case case1 => nofun
  case case2 => nofun
  case case3 => nofun
  case case4 => nofun
  case case5 c hc _ c1 hc1 h0 _ c2 p3 hc2 _ hle =>
    intro r h
    cases h
    rw [Bool.not_eq_true', Bool.not_eq_false] at hc
    exact ⟨[c, c1, c2], rfl, decPart_ok _ _ (by simp) (by simp [← isDigit_eq, hc, hc1, hc2])
      (fun _ _ _ e => by cases e; exact h0)
      (by simp only [List.foldl_cons, List.foldl_nil, Nat.zero_mul, Nat.zero_add]; rfl) (by omega)⟩
  case case6 c hc _ c1 hc1 h0 _ c2 p3 _ =>
    intro r h
    cases h
    exact ⟨[c, c1], rfl, decPart_two c c1 (by simpa using hc) hc1 h0⟩
  case case7 c hc _ c1 hc1 h0 _ =>
    intro r h
    cases h
    exact ⟨[c, c1], rfl, decPart_two c c1 (by simpa using hc) hc1 h0⟩
  case case8 c hc _ c1 p2 _ =>
    intro r h
    cases h
    exact ⟨[c], rfl, decPart_one c (by simpa using hc)⟩
  case case9 c hc _ =>
    intro r h
    cases h
    exact ⟨[c], rfl, decPart_one c (by simpa using hc)⟩

theorem nodot_of_digits (ds : Bytes) (h : ∀ b ∈ ds, isAsciiDigit b = true) : (0x2E : UInt8) ∉ ds :=
  fun hm => absurd (h _ hm) (by decide)

theorem ipv4Decimal_shape (s : Bytes) (ip : Nat) (h : ipv4Decimal s = some ip) :
    ∃ da db dc dd : Bytes, ∃ va vb vc vd : Nat, ∃ tail : Bytes,
      s = da ++ 0x2E :: (db ++ 0x2E :: (dc ++ 0x2E :: (dd ++ tail))) ∧ (tail = [] ∨ tail = [0x2E]) ∧
      (∀ b ∈ da, isAsciiDigit b = true) ∧ (∀ b ∈ db, isAsciiDigit b = true) ∧ (∀ b ∈ dc, isAsciiDigit b = true) ∧
      (∀ b ∈ dd, isAsciiDigit b = true) ∧ dd ≠ [] ∧
      ipv4Number da = some va ∧ ipv4Number db = some vb ∧ ipv4Number dc = some vc ∧ ipv4Number dd = some vd ∧
      va ≤ 255 ∧ vb ≤ 255 ∧ vc ≤ 255 ∧ vd ≤ 255 ∧
      ∀ ds ∈ [da, db, dc, dd], ∀ c x rest, ds = c :: x :: rest → c ≠ 0x30 := by
  unfold ipv4Decimal at h
  split at h; · cases h
  rename_i va p1 h1
  split at h
  case h_2 => cases h
  rename_i p1'
  split at h; · cases h
  rename_i vb p2 h2
  split at h
  case h_2 => cases h
  rename_i p2'
  split at h; · cases h
  rename_i vc p3 h3
  split at h
  case h_2 => cases h
  rename_i p3'
  split at h; · cases h
  rename_i vd p4 h4
  obtain ⟨da, e1, _, d1, n1, l1, z1⟩ := decPart_lead _ _ _ h1
  obtain ⟨db, e2, _, d2, n2, l2, z2⟩ := decPart_lead _ _ _ h2
  obtain ⟨dc, e3, _, d3, n3, l3, z3⟩ := decPart_lead _ _ _ h3
  obtain ⟨dd, e4, ne4, d4, n4, l4, z4⟩ := decPart_lead _ _ _ h4
  have htail : p4 = [] ∨ p4 = [0x2E] := by
    simp only at h
    split at h
    · left; rfl
    · right; rfl
    · cases h
  exact ⟨da, db, dc, dd, va, vb, vc, vd, p4, by rw [e1, e2, e3, e4], htail, d1, d2, d3, d4, ne4, n1, n2, n3, n4, l1, l2, l3, l4,
    by simpa using ⟨z1, z2, z3, z4⟩⟩

/-- what the decimal kernel accepts, the Standard's IPv4 parser accepts, and the ends-in-a-number checker says yes -/
theorem ipv4Decimal_sound (s : Bytes) (ip : Nat) (h : ipv4Decimal s = some ip) :
    endsInANumber s = true ∧ (ipv4Parse s).isSome = true ∧ (∀ b ∈ s, isAsciiDigit b = true ∨ b = 0x2E) := by
  obtain ⟨da, db, dc, dd, va, vb, vc, vd, tail, hs, htail, d1, d2, d3, d4, ne4, n1, n2, n3, n4, l1, l2, l3, l4, _⟩ :=
    ipv4Decimal_shape s ip h
  have x1 := nodot_of_digits da d1
  have x2 := nodot_of_digits db d2
  have x3 := nodot_of_digits dc d3
  have x4 := nodot_of_digits dd d4
  have hdd : dd.all isAsciiDigit = true := by simpa [List.all_eq_true] using d4
  have hne : dd.isEmpty = false := isEmpty_false_of_ne ne4
  have htl : ∀ b ∈ tail, b = 0x2E := by
    rcases htail with rfl | rfl <;> simp
  have hbytes : ∀ b ∈ s, isAsciiDigit b = true ∨ b = 0x2E := by
    intro b hb
    rw [hs] at hb
    simp only [List.mem_append, List.mem_cons] at hb
    rcases hb with hb | rfl | hb | rfl | hb | rfl | hb | hb
    · exact Or.inl (d1 b hb)
    · exact Or.inr rfl
    · exact Or.inl (d2 b hb)
    · exact Or.inr rfl
    · exact Or.inl (d3 b hb)
    · exact Or.inr rfl
    · exact Or.inl (d4 b hb)
    · exact Or.inr (htl b hb)
  have hddne : (some dd == some ([] : Bytes)) = false := by
    simp only [beq_eq_false_iff_ne, ne_eq, Option.some.injEq]; exact ne4
  -- the bound `ipv4Parse` puts on the last of four parts
  have hlast : ¬ vd ≥ 256 ^ (5 - 4) := by simp; omega
  have hfront : ([va, vb, vc].any fun x => decide (x > 255)) = false := by
    simp only [List.any_cons, List.any_nil, Bool.or_false, Bool.or_eq_false_iff, decide_eq_false_iff_not]
    omega
  rcases htail with rfl | rfl
  · have hsp : splitOn 0x2E s = [da, db, dc, dd] := by
      rw [hs, List.append_nil, splitOn_append _ _ _ x1, splitOn_append _ _ _ x2, splitOn_append _ _ _ x3, splitOn_no_sep _ _ x4]
    refine ⟨?_, ?_, hbytes⟩
    · unfold endsInANumber
      simp [hsp, hddne, hne, hdd, ne4]
    · unfold ipv4Parse
      simp only [hsp, List.getLast?_cons_cons, List.getLast?_singleton, hddne, Bool.false_and, Bool.false_eq_true, ↓reduceIte,
        List.length_cons, List.length_nil, List.mapM_cons, List.mapM_nil, n1, n2, n3, n4]
      simp [hfront, hlast]
  · have hsp : splitOn 0x2E s = [da, db, dc, dd, []] := by
      rw [hs, splitOn_append _ _ _ x1, splitOn_append _ _ _ x2, splitOn_append _ _ _ x3, splitOn_append _ _ _ x4]
      rfl
    refine ⟨?_, ?_, hbytes⟩
    · unfold endsInANumber
      simp [hsp, hne, hdd]
    · unfold ipv4Parse
      simp only [hsp, List.getLast?_cons_cons, List.getLast?_singleton, List.length_cons, List.length_nil]
      simp [n1, n2, n3, n4, hfront, hlast]

end AdaVerif.Lemmas.FS
