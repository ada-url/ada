import AdaVerif.Model.HostKernels
import AdaVerif.Lemmas.Ipv6
/-
C10: `serializers::ipv6` (with `find_longest_sequence_of_ipv6_pieces` and `write_hex_u16`) is the Standard's IPv6
serializer.  Both only look at which pieces are zero and otherwise print pieces and colons, so both factor through a
*template* (a list of "piece i" / "colon" items) that depends on the zero pattern alone; the 256 patterns are
decided, the rest is the rendering of a template.
-/
namespace AdaVerif.Lemmas.K6
open AdaVerif AdaVerif.Spec AdaVerif.Lemmas AdaVerif.Model.HostKernels

theorem hexDigit_eq : ∀ n : Fin 16, hexDigitLower n.val = hexLower n.val := by decide

theorem writeHexU16_eq (v : Nat) (h : v < 65536) : writeHexU16 v = natToHexLower v := by
  have d (y : Nat) : hexDigitLower (y % 16) = hexLower (y % 16) := hexDigit_eq ⟨y % 16, Nat.mod_lt _ (by decide)⟩
  rw [V6.natToHexLower_eq v h]
  simp only [writeHexU16, V6.hex4, d, ge_iff_le]
  -- the same four cases on both sides; the leading digit is below 16, so its `% 16` goes
  by_cases h1 : v < 16
  · have g1 : ¬ 0x1000 ≤ v := by omega
    have g2 : ¬ 0x100 ≤ v := by omega
    have g3 : ¬ 0x10 ≤ v := by omega
    simp only [g1, g2, g3, h1, ↓reduceIte, Nat.mod_eq_of_lt h1]
  · by_cases h2 : v < 256
    · have g1 : ¬ 0x1000 ≤ v := by omega
      have g2 : ¬ 0x100 ≤ v := by omega
      have g3 : 0x10 ≤ v := by omega
      simp only [g1, g2, g3, h1, h2, ↓reduceIte, Nat.mod_eq_of_lt (Nat.div_lt_of_lt_mul h2 : v / 16 < 16)]
    · by_cases h3 : v < 4096
      · have g1 : ¬ 0x1000 ≤ v := by omega
        have g2 : 0x100 ≤ v := by omega
        simp only [g1, g2, h1, h2, h3, ↓reduceIte, Nat.mod_eq_of_lt (Nat.div_lt_of_lt_mul h3 : v / 256 < 16)]
      · have g1 : 0x1000 ≤ v := by omega
        simp only [g1, h1, h2, h3, ↓reduceIte, Nat.mod_eq_of_lt (Nat.div_lt_of_lt_mul h : v / 4096 < 16)]

inductive Item
  | piece (i : Nat)
  | colon
deriving DecidableEq, Repr

def render (txt : Nat → Bytes) (a : List Nat) (t : List Item) : Bytes :=
  t.flatMap (fun it => match it with | .piece i => txt (a.getD i 0) | .colon => [0x3A])

theorem render_append (txt : Nat → Bytes) (a : List Nat) (x y : List Item) : render txt a (x ++ y) = render txt a x ++ render txt a y := by
  simp [render, List.flatMap_append]

/-- the Standard's longest-zero-run search on the zero pattern -/
def lzrGo : List Bool → Nat → Nat → Nat → Nat → Nat → Nat × Nat
  | [], _, curStart, curLen, bestStart, bestLen => if curLen > bestLen then (curStart, curLen) else (bestStart, bestLen)
  | z :: rest, i, curStart, curLen, bestStart, bestLen =>
    if z then
      let cs := if curLen == 0 then i else curStart
      lzrGo rest (i + 1) cs (curLen + 1) bestStart bestLen
    else
      if curLen > bestLen then lzrGo rest (i + 1) 0 0 curStart curLen
      else lzrGo rest (i + 1) 0 0 bestStart bestLen

theorem lzr_flags (l : List Nat) (i cs cl bs bl : Nat) :
    longestZeroRun.go l i cs cl bs bl = lzrGo (l.map (· == 0)) i cs cl bs bl := by
  induction l generalizing i cs cl bs bl with
  | nil => rfl
  | cons x rest ih =>
    simp only [longestZeroRun.go, List.map_cons, lzrGo]
    split
    · exact ih _ _ _ _ _
    · split <;> exact ih _ _ _ _ _

/-- the Standard's serializer loop producing items -/
def serGoItems (compress : Option Nat) : List Bool → Nat → Bool → List Item → List Item
  | [], _, _, out => out
  | z :: rest, i, ignore0, out =>
    if ignore0 && z then serGoItems compress rest (i + 1) true out
    else
      if compress == some i then
        let sep : List Item := if i == 0 then [.colon, .colon] else [.colon]
        serGoItems compress rest (i + 1) true (out ++ sep)
      else
        let out := out ++ [.piece i]
        let out := if i != 7 then out ++ [.colon] else out
        serGoItems compress rest (i + 1) false out

theorem go_items (a : List Nat) (c : Option Nat) (l : List Nat) (i : Nat) (ig : Bool) (out : List Item)
    (hl : l = a.drop i) :
    ipv6Serialize.go c l i ig (render natToHexLower a out) = render natToHexLower a (serGoItems c (l.map (· == 0)) i ig out) := by
  induction l generalizing i ig out with
  | nil => simp [ipv6Serialize.go, serGoItems]
  | cons x rest ih =>
    have hx : a.getD i 0 = x := by
      have : (a.drop i).getD 0 0 = x := by rw [← hl]; rfl
      simpa [List.getD_eq_getElem?_getD] using this
    have hrest : rest = a.drop (i + 1) := by
      have : (a.drop i).drop 1 = rest := by rw [← hl]; rfl
      rw [← this, List.drop_drop]
    simp only [ipv6Serialize.go, List.map_cons, serGoItems]
    split
    · exact ih _ _ _ hrest
    · split
      · have : render natToHexLower a out ++ (if (i == 0) = true then [0x3A, 0x3A] else [0x3A]) =
            render natToHexLower a (out ++ (if (i == 0) = true then [Item.colon, Item.colon] else [Item.colon])) := by
          rw [render_append]; split <;> simp [render]
        rw [this]; exact ih _ _ _ hrest
      · have : (if (i != 7) = true then render natToHexLower a out ++ natToHexLower x ++ [0x3A]
              else render natToHexLower a out ++ natToHexLower x) =
            render natToHexLower a (if (i != 7) = true then out ++ [Item.piece i] ++ [Item.colon] else out ++ [Item.piece i]) := by
          have hx' : a[i]?.getD 0 = x := by rw [← hx]; simp [List.getD_eq_getElem?_getD]
          split <;> simp [render_append, render, hx']
        rw [this]; exact ih _ _ _ hrest

def tmplSpec (f : List Bool) : List Item :=
  let r := lzrGo f 0 0 0 0 0
  serGoItems (if r.2 > 1 then some r.1 else none) f 0 false []

theorem spec_template (a : List Nat) : ipv6Serialize a = render natToHexLower a (tmplSpec (a.map (· == 0))) := by
  unfold ipv6Serialize tmplSpec longestZeroRun
  rw [lzr_flags]
  have := go_items a (if (lzrGo (a.map (· == 0)) 0 0 0 0 0).2 > 1 then some (lzrGo (a.map (· == 0)) 0 0 0 0 0).1 else none) a 0 false []
    (by simp)
  simpa [render] using this

def findLongestFlags : Nat → List Bool → Nat → Nat → Nat → Nat × Nat
  | 0, _, _, c, cl => (c, cl)
  | fuel + 1, f, i, c, cl =>
    if i ≥ 8 then (c, cl)
    else if !(f.getD i true) then findLongestFlags fuel f (i + 1) c cl
    else
      let next := i + 1 + ((f.drop (i + 1)).takeWhile id).length
      let next := if next > 8 then 8 else next
      let count := next - i
      if count > cl then findLongestFlags fuel f next i count else findLongestFlags fuel f next c cl

theorem takeWhile_flags (l : List Nat) : ((l.map (· == 0)).takeWhile id).length = (l.takeWhile (· == 0)).length := by
  induction l with
  | nil => rfl
  | cons x t ih =>
    simp only [List.map_cons, List.takeWhile_cons, id]
    split <;> simp [ih]

theorem findLongest_flags (fuel : Nat) (a : List Nat) (i c cl : Nat) :
    findLongest fuel a i c cl = findLongestFlags fuel (a.map (· == 0)) i c cl := by
  induction fuel generalizing i c cl with
  | zero => rfl
  | succ f ih =>
    have hget : (getAt a i != 0) = !((a.map (· == 0)).getD i true) := by
      unfold getAt
      by_cases hi : i < a.length
      · simp [List.getD_eq_getElem?_getD, hi, bne]
      · have : a.length ≤ i := by omega
        simp [List.getD_eq_getElem?_getD, this]
    have htw : ((a.drop (i + 1)).takeWhile (· == 0)).length = (((a.map (· == 0)).drop (i + 1)).takeWhile id).length := by
      rw [← List.map_drop, takeWhile_flags]
    simp only [findLongest, findLongestFlags, hget, htw]
    split
    · rfl
    · split
      · exact ih _ _ _
      · split
        · split <;> exact ih _ _ _
        · split <;> exact ih _ _ _

def ser6LoopItems : Nat → Nat → Nat → Nat → List Item → List Item
  | 0, _, _, _, out => out
  | fuel + 1, pieceIndex, compress, compressLength, out =>
    let (pieceIndex, out, stop) :=
      if pieceIndex == compress then
        let out := out ++ [.colon]
        let out := if pieceIndex == 0 then out ++ [.colon] else out
        let pi := pieceIndex + compressLength
        (pi, out, pi == 8)
      else (pieceIndex, out, false)
    if stop then out else
    let out := out ++ [.piece pieceIndex]
    let pieceIndex := pieceIndex + 1
    if pieceIndex == 8 then out
    else ser6LoopItems fuel pieceIndex compress compressLength (out ++ [.colon])

theorem ser6_items (fuel : Nat) (a : List Nat) (pi c cl : Nat) (out : List Item) :
    ser6Loop fuel a pi c cl (render writeHexU16 a out) = render writeHexU16 a (ser6LoopItems fuel pi c cl out) := by
  induction fuel generalizing pi out with
  | zero => rfl
  | succ f ih =>
    unfold ser6Loop ser6LoopItems
    by_cases h1 : (pi == c) = true
    · simp only [h1, ↓reduceIte]
      by_cases h0 : (pi == 0) = true
      · simp only [h0, ↓reduceIte]
        by_cases h8 : (pi + cl == 8) = true
        · simp [h8, render_append, render]
        · simp only [h8, Bool.false_eq_true, ↓reduceIte]
          by_cases h88 : (pi + cl + 1 == 8) = true
          · simp [h88, render_append, render, getAt]
          · simp only [h88, Bool.false_eq_true, ↓reduceIte]
            have := ih (pi + cl + 1) (out ++ [Item.colon] ++ [Item.colon] ++ [Item.piece (pi + cl)] ++ [Item.colon])
            simpa [render_append, render, getAt] using this
      · simp only [h0, Bool.false_eq_true, ↓reduceIte]
        by_cases h8 : (pi + cl == 8) = true
        · simp [h8, render_append, render]
        · simp only [h8, Bool.false_eq_true, ↓reduceIte]
          by_cases h88 : (pi + cl + 1 == 8) = true
          · simp [h88, render_append, render, getAt]
          · simp only [h88, Bool.false_eq_true, ↓reduceIte]
            have := ih (pi + cl + 1) (out ++ [Item.colon] ++ [Item.piece (pi + cl)] ++ [Item.colon])
            simpa [render_append, render, getAt] using this
    · simp only [h1, Bool.false_eq_true, ↓reduceIte]
      by_cases h88 : (pi + 1 == 8) = true
      · simp [h88, render_append, render, getAt]
      · simp only [h88, Bool.false_eq_true, ↓reduceIte]
        have := ih (pi + 1) (out ++ [Item.piece pi] ++ [Item.colon])
        simpa [render_append, render, getAt] using this

/-- `serIpv6` on the zero pattern (9 is the fuel `serIpv6` gives both loops: eight pieces and one more turn) -/
def tmplModel (f : List Bool) : List Item :=
  let r := findLongestFlags 9 f 0 0 0
  let r := if r.2 ≤ 1 then (8, 8) else r
  ser6LoopItems 9 0 r.1 r.2 []

theorem model_template (a : List Nat) :
    serIpv6 a = [0x5B] ++ render writeHexU16 a (tmplModel (a.map (· == 0))) ++ [0x5D] := by
  unfold serIpv6 tmplModel
  rw [findLongest_flags]
  have := ser6_items 9 a 0 (if (findLongestFlags 9 (a.map (· == 0)) 0 0 0).2 ≤ 1 then (8, 8) else findLongestFlags 9 (a.map (· == 0)) 0 0 0).1
    (if (findLongestFlags 9 (a.map (· == 0)) 0 0 0).2 ≤ 1 then (8, 8) else findLongestFlags 9 (a.map (· == 0)) 0 0 0).2 []
  simp only [render, List.flatMap_nil] at this
  cases hq : findLongestFlags 9 (a.map (· == 0)) 0 0 0 with
  | mk c cl =>
    rw [hq] at this
    simp only
    split <;> simp_all [render]

theorem templates_agree : ∀ b0 b1 b2 b3 b4 b5 b6 b7 : Bool,
    tmplSpec [b0, b1, b2, b3, b4, b5, b6, b7] = tmplModel [b0, b1, b2, b3, b4, b5, b6, b7] := by decide +kernel

theorem render_txt (a : List Nat) (ha : ∀ x ∈ a, x < 65536) (t : List Item) : render writeHexU16 a t = render natToHexLower a t := by
  unfold render
  congr 1
  funext it
  cases it with
  | colon => rfl
  | piece i =>
    simp only
    apply writeHexU16_eq
    by_cases hi : i < a.length
    · have : a.getD i 0 = a[i] := by simp [List.getD_eq_getElem?_getD, hi]
      rw [this]; exact ha _ (List.getElem_mem hi)
    · have : a.getD i 0 = 0 := by
        have hle : a.length ≤ i := by omega
        simp [List.getD_eq_getElem?_getD, List.getElem?_eq_none hle]
      rw [this]; decide

theorem serIpv6_eq (a : List Nat) (hl : a.length = 8) (ha : ∀ x ∈ a, x < 65536) :
    serIpv6 a = [0x5B] ++ ipv6Serialize a ++ [0x5D] := by
  rw [model_template, spec_template, render_txt a ha]
  match a, hl with
  | [x0, x1, x2, x3, x4, x5, x6, x7], _ =>
    simp only [List.map_cons, List.map_nil]
    rw [templates_agree]

end AdaVerif.Lemmas.K6
