import AdaVerif.Lemmas.ParseInv
import AdaVerif.Lemmas.HostFixed
import AdaVerif.Lemmas.Ipv6
import AdaVerif.Lemmas.SpecScans
import AdaVerif.Lemmas.Decimal
/-
C05: a canonical URL record is a fixed point of serialise-then-parse (`Spec.parse (href u) none = some u`).
The byte classes of the href's parts, then the pieces of the parser in the order the href is consumed: each scanner on
"what the serializer wrote, followed by its delimiter", each encoder as the identity on an encoded part.
-/
namespace AdaVerif.Lemmas.FP
open AdaVerif AdaVerif.Spec AdaVerif.Lemmas

theorem dropWhileEnd_id (p : UInt8 → Bool) (s : Bytes) (h : ∀ a, s.getLast? = some a → p a = false) :
    dropWhileEnd p s = s := by
  unfold dropWhileEnd
  rw [dropWhile_eq_self p s.reverse (by simpa using h)]
  simp

theorem preprocess_id (s : Bytes) (hh : ∀ a, s.head? = some a → isC0OrSpace a = false)
    (hl : ∀ a, s.getLast? = some a → isC0OrSpace a = false) (hm : ∀ a ∈ s, isTabOrNewline a = false) :
    preprocess s = s := by
  unfold preprocess
  rw [dropWhile_eq_self _ _ hh, dropWhileEnd_id _ _ hl, List.filter_eq_self.2 (by intro a ha; simp [hm a ha])]

/-- not a printable ASCII byte: C0 control, space, DEL or above -/
def bad (b : UInt8) : Bool := isC0OrSpace b || decide (0x7F ≤ b.toNat)
def Vis (b : UInt8) : Prop := b ≠ 0x3F ∧ b ≠ 0x23 ∧ bad b = false
def AuthByte (b : UInt8) : Prop := b ≠ 0x2F ∧ b ≠ 0x5C ∧ Vis b
def HostByte (b : UInt8) : Prop := b ≠ 0x40 ∧ AuthByte b
def PlainHostByte (b : UInt8) : Prop := HostByte b ∧ b ≠ 0x3A ∧ b ≠ 0x5B ∧ b ≠ 0x5D ∧ b ≠ 0x7C

theorem hostByte_colon : HostByte 0x3A := by unfold HostByte AuthByte Vis; decide
theorem hostByte_open : HostByte 0x5B := by unfold HostByte AuthByte Vis; decide
theorem hostByte_close : HostByte 0x5D := by unfold HostByte AuthByte Vis; decide
theorem authByte_at : AuthByte 0x40 := by unfold AuthByte Vis; decide
theorem vis_slash : Vis 0x2F := by unfold Vis; decide
theorem vis_dot : Vis 0x2E := by unfold Vis; decide

theorem c0sp_tn : ∀ b : UInt8, isC0OrSpace b = false → isTabOrNewline b = false := by
  apply forall_uint8_of_fin; decide +kernel
theorem c0_sp (b : UInt8) (h : inC0 b = false) : bad b = false ∨ b = 0x20 := by
  simp only [inC0, Bool.or_eq_false_iff, decide_eq_false_iff_not] at h
  by_cases e : b.toNat = 0x20
  · exact Or.inr (UInt8.toNat_inj.1 e)
  · left
    simp only [bad, isC0OrSpace, Bool.or_eq_false_iff, decide_eq_false_iff_not]
    omega

theorem bad_c0 (b : UInt8) (h : bad b = false) : isC0OrSpace b = false ∧ isTabOrNewline b = false :=
  have h1 := (Bool.or_eq_false_iff.1 h).1
  ⟨h1, c0sp_tn b h1⟩

theorem notQuery_vis {b : UInt8} (h : inQuery b = false) : b ≠ 0x23 ∧ bad b = false :=
  ⟨(notQuery h).2.2, (c0_sp b (notQuery h).1).resolve_right (notQuery h).2.1⟩
theorem notPath_vis {b : UInt8} (h : inPath b = false) : Vis b :=
  ⟨(notPath h).2, notQuery_vis (notPath h).1⟩
theorem userinfo_facts (b : UInt8) (h : inUserinfo b = false) : HostByte b ∧ b ≠ 0x3A :=
  have u := notUserinfo h
  ⟨⟨u.2.2.2.1, u.2.1, u.2.2.2.2.2.1, notPath_vis u.1⟩, u.2.2.1⟩

theorem lowerScheme_facts : ∀ b : UInt8, isLowerSchemeByte b = true →
    isSchemeChar b = true ∧ toLowerByte b = b ∧ b ≠ 0x3A ∧ Vis b := by
  unfold Vis; apply forall_uint8_of_fin; decide +kernel
theorem lower_is_alpha (b : UInt8) (h : isAsciiLower b = true) :
    isAsciiAlpha b = true ∧ isLowerSchemeByte b = true ∧ isC0OrSpace b = false := by
  refine ⟨by simp [isAsciiAlpha, h], by simp [isLowerSchemeByte, h], ?_⟩
  simp only [isAsciiLower, Bool.and_eq_true, decide_eq_true_eq] at h
  simp only [isC0OrSpace, decide_eq_false_iff_not]
  omega

theorem schemeOk_bytes (s : Bytes) (h : schemeOk s = true) : ∀ b ∈ s, isLowerSchemeByte b = true := by
  cases s with
  | nil => simp [schemeOk] at h
  | cons c t =>
    simp only [schemeOk, Bool.and_eq_true, List.all_eq_true] at h
    intro b hb
    rcases List.mem_cons.mp hb with rfl | hb
    · exact (lower_is_alpha _ h.1).2.1
    · exact h.2 b hb

theorem takeScheme_raw (c : UInt8) (t rest : Bytes) (hc : isAsciiAlpha c = true) (hall : ∀ x ∈ c :: t, isSchemeChar x = true) :
    takeScheme ((c :: t) ++ 0x3A :: rest) = some ((c :: t).map toLowerByte, rest) := by
  have htw := AdaVerif.Lemmas.takeWhile_append_stop isSchemeChar (c :: t) 0x3A rest hall (by decide)
  unfold takeScheme
  simp only [List.cons_append, hc, Bool.not_true, Bool.false_eq_true, ↓reduceIte]
  rw [show c :: (t ++ 0x3A :: rest) = (c :: t) ++ 0x3A :: rest from rfl, htw]
  simp

theorem takeScheme_href (scheme rest : Bytes) (h : schemeOk scheme = true) :
    takeScheme (scheme ++ 0x3A :: rest) = some (scheme, rest) := by
  have hall := schemeOk_bytes scheme h
  cases scheme with
  | nil => simp [schemeOk] at h
  | cons c t =>
    have hc : isAsciiLower c = true := by
      simp only [schemeOk, Bool.and_eq_true] at h
      exact h.1
    rw [takeScheme_raw c t rest (lower_is_alpha c hc).1 (fun x hx => (lowerScheme_facts x (hall x hx)).1),
      map_eq_self _ _ (fun x hx => (lowerScheme_facts x (hall x hx)).2.1)]

def isSep (special : Bool) (b : UInt8) : Bool := b == 0x2F || (special && b == 0x5C)

theorem splitPath_last (sp : Bool) (seg : Bytes) (h : ∀ b ∈ seg, isSep sp b = false) : splitPath sp seg = [seg] := by
  induction seg with
  | nil => rfl
  | cons b t ih =>
    have hb := h b (by simp)
    unfold isSep at hb
    simp only [splitPath, hb, Bool.false_eq_true, ↓reduceIte]
    rw [ih (fun x hx => h x (by simp [hx]))]

theorem splitPath_cons (sp : Bool) (seg rest : Bytes) (h : ∀ b ∈ seg, isSep sp b = false) :
    splitPath sp (seg ++ 0x2F :: rest) = seg :: splitPath sp rest := by
  induction seg with
  | nil => simp [splitPath]
  | cons b t ih =>
    have hb := h b (by simp)
    unfold isSep at hb
    simp only [List.cons_append, splitPath, hb, Bool.false_eq_true, ↓reduceIte]
    rw [ih (fun x hx => h x (by simp [hx]))]

/-- the path text after the leading '/' -/
def joinTail (seg : Bytes) (more : List Bytes) : Bytes := seg ++ more.flatMap (fun s => 0x2F :: s)

theorem splitPath_join (sp : Bool) (seg : Bytes) (more : List Bytes)
    (h : ∀ s ∈ seg :: more, ∀ b ∈ s, isSep sp b = false) : splitPath sp (joinTail seg more) = seg :: more := by
  induction more generalizing seg with
  | nil => simpa [joinTail] using splitPath_last sp seg (h seg (by simp))
  | cons m rest ih =>
    have : joinTail seg (m :: rest) = seg ++ 0x2F :: joinTail m rest := by simp [joinTail]
    rw [this, splitPath_cons sp seg _ (h seg (by simp)), ih m (fun s hs => h s (by simp only [List.mem_cons] at hs ⊢; exact Or.inr hs))]

/-- a path segment that the path state leaves alone -/
structure SegOk (special : Bool) (seg : Bytes) : Prop where
  enc : ∀ b ∈ seg, inPath b = false
  sep : ∀ b ∈ seg, isSep special b = false
  nodot : isSingleDot seg = false
  noddot : isDoubleDot seg = false

theorem percentEncode_id (p : UInt8 → Bool) (s : Bytes) (h : ∀ b ∈ s, p b = false) : percentEncode p s = s := by
  induction s with
  | nil => rfl
  | cons b t ih =>
    have := ih (fun x hx => h x (by simp [hx]))
    simp only [percentEncode, List.flatMap_cons, h b (by simp), Bool.false_eq_true, ↓reduceIte] at this ⊢
    simp [this]

theorem drive_norm (seg : Bytes) (h : isNormalizedWindowsDriveLetter seg = true) : ∃ a, seg = [a, 0x3A] := by
  unfold isNormalizedWindowsDriveLetter at h
  split at h
  · rename_i a b
    simp only [Bool.and_eq_true, beq_iff_eq] at h
    exact ⟨a, by rw [h.2]⟩
  · cases h

theorem pathSegments_canon (scheme : Bytes) (segs acc : List Bytes)
    (hs : ∀ s ∈ segs, SegOk (isSpecialScheme scheme) s)
    (hd : scheme = bFile → acc = [] → ∀ s, segs.head? = some s → isWindowsDriveLetter s = true →
          isNormalizedWindowsDriveLetter s = true) :
    pathSegments scheme segs acc = acc ++ segs := by
  induction segs generalizing acc with
  | nil => simp [pathSegments]
  | cons seg more ih =>
    have ok := hs seg (by simp)
    have henc := percentEncode_id inPath seg ok.enc
    have hrest := ih (acc ++ [seg]) (fun s hs' => hs s (by simp [hs'])) (fun _ h => by simp at h)
    by_cases hc : (scheme == bFile && acc.isEmpty && isWindowsDriveLetter seg) = true
    · have hc' := hc
      simp only [Bool.and_eq_true, beq_iff_eq, List.isEmpty_iff] at hc'
      obtain ⟨a, rfl⟩ := drive_norm seg (hd hc'.1.1 hc'.1.2 seg rfl hc'.2)
      unfold pathSegments
      simp only [henc, ok.nodot, ok.noddot, Bool.false_eq_true, ↓reduceIte, hc]
      rw [hrest]; simp
    · unfold pathSegments
      simp only [henc, ok.nodot, ok.noddot, Bool.false_eq_true, ↓reduceIte, hc]
      rw [hrest]; simp

theorem forbHost_facts (b : UInt8) (h : isForbiddenHost b = false) (hc : inC0 b = false) : PlainHostByte b := by
  simp [isForbiddenHost] at h
  have hb : bad b = false := (c0_sp b hc).resolve_right (by simp [h])
  simp [PlainHostByte, HostByte, AuthByte, Vis, h, hb]
theorem forbDomain_facts : ∀ b : UInt8, isForbiddenDomain b = false → b.toNat < 0x80 →
    HostByte b ∧ b ≠ 0x3A ∧ b ≠ 0x5B ∧ b ≠ 0x5D ∧ b ≠ 0x25 ∧ b ≠ 0x7C := by
  intro b h ha
  simp only [isForbiddenDomain, Bool.or_eq_false_iff, decide_eq_false_iff_not, beq_eq_false_iff_ne] at h
  have h7f : b.toNat ≠ 0x7F := fun e => h.2 (UInt8.toNat_inj.1 e)
  have hc : inC0 b = false := by
    simp only [inC0, Bool.or_eq_false_iff, decide_eq_false_iff_not]
    omega
  have p := forbHost_facts b h.1.1.1 hc
  exact ⟨p.1, p.2.1, p.2.2.1, p.2.2.2.1, h.1.2, p.2.2.2.2⟩
theorem hex_plain : ∀ b : UInt8, isAsciiHexDigit b = true → isForbiddenHost b = false ∧ inC0 b = false := by
  apply forall_uint8_of_fin; decide +kernel
theorem dd_host (b : UInt8) (h : isAsciiDigit b = true ∨ b = 0x2E) : PlainHostByte b := by
  rcases h with h | rfl
  · have := hex_plain b (by simp [isAsciiHexDigit, h])
    exact forbHost_facts b this.1 this.2
  · exact forbHost_facts _ (by decide) (by decide)
theorem v6_host (b : UInt8) (h : BR.V6Byte b) : HostByte b ∧ b ≠ 0x5B ∧ b ≠ 0x5D := by
  rcases h with h | rfl | rfl
  · have p := forbHost_facts b (hex_plain b h).1 (hex_plain b h).2
    exact ⟨p.1, p.2.2.1, p.2.2.2.1⟩
  · exact ⟨hostByte_colon, by decide, by decide⟩
  · have p := dd_host 0x2E (Or.inr rfl)
    exact ⟨p.1, p.2.2.1, p.2.2.2.1⟩

local notation "hgo" => hostEnd.go

theorem hostEnd_skip (s r : Bytes) (i : Nat) (inside : Bool)
    (hs : ∀ b ∈ s, b ≠ 0x5B ∧ b ≠ 0x5D ∧ (inside = true ∨ b ≠ 0x3A)) :
    hgo (s ++ r) i inside = hgo r (i + s.length) inside := by
  induction s generalizing i with
  | nil => simp
  | cons b t ih =>
    obtain ⟨h1, h2, h3⟩ := hs b (by simp)
    have e1 : (b == 0x5B) = false := by simpa using h1
    have e2 : (b == 0x5D) = false := by simpa using h2
    have e3 : (b == 0x3A && !inside) = false := by
      rcases h3 with h | h
      · simp [h]
      · have : (b == 0x3A) = false := by simpa using h
        simp [this]
    simp only [List.cons_append, hostEnd.go, e1, e2, e3, Bool.false_eq_true, ↓reduceIte, List.length_cons]
    rw [ih (i + 1) (fun x hx => hs x (by simp [hx]))]
    congr 1; omega

theorem hostEnd_stop (r : Bytes) (i : Nat) (hr : r = [] ∨ r.head? = some 0x3A) : hgo r i false = i := by
  rcases hr with rfl | hr
  · simp [hostEnd.go]
  · cases r with
    | nil => simp at hr
    | cons c t =>
      have : c = 0x3A := by simpa using hr
      subst this; simp [hostEnd.go]

theorem hostEnd_plain (s r : Bytes) (hs : ∀ b ∈ s, b ≠ 0x3A ∧ b ≠ 0x5B ∧ b ≠ 0x5D) (hr : r = [] ∨ r.head? = some 0x3A) :
    hostEnd (s ++ r) = s.length := by
  unfold hostEnd
  rw [hostEnd_skip s r 0 false (fun b hb => ⟨(hs b hb).2.1, (hs b hb).2.2, Or.inr (hs b hb).1⟩), hostEnd_stop r _ hr]
  simp

/-- a bracketed literal: colons inside the brackets do not end the host -/
theorem hostEnd_bracket (s r : Bytes) (hs : ∀ b ∈ s, b ≠ 0x5B ∧ b ≠ 0x5D) (hr : r = [] ∨ r.head? = some 0x3A) :
    hostEnd (0x5B :: s ++ 0x5D :: r) = s.length + 2 := by
  unfold hostEnd
  have e : (0x5B :: s ++ 0x5D :: r) = 0x5B :: (s ++ 0x5D :: r) := rfl
  rw [e]
  simp only [hostEnd.go, show ((0x5B : UInt8) == 0x3A) = false by decide, Bool.false_and, Bool.false_eq_true, ↓reduceIte,
    beq_self_eq_true]
  rw [hostEnd_skip s _ _ true (fun b hb => ⟨(hs b hb).1, (hs b hb).2, Or.inl rfl⟩)]
  simp only [hostEnd.go, show ((0x5D : UInt8) == 0x3A) = false by decide, Bool.false_and, Bool.false_eq_true, ↓reduceIte,
    show ((0x5D : UInt8) == 0x5B) = false by decide, beq_self_eq_true]
  rw [hostEnd_stop r _ hr]; omega

/-- what the authority, host and port states need to know about a serialised host -/
structure HostOk (idna : Idna) (special : Bool) (h : Host) : Prop where
  reparse : h ≠ .empty → hostParse idna h.serialize (!special) = some h
  ne : h ≠ .empty → h.serialize ≠ []
  bytes : ∀ b ∈ h.serialize, HostByte b
  hend : ∀ r, (r = [] ∨ r.head? = some 0x3A) → hostEnd (h.serialize ++ r) = h.serialize.length
  nodrive : isWindowsDriveLetter h.serialize = false

/-- canonical host values: what the host parser can return -/
def HostCanon (idna : Idna) (special : Bool) : Host → Prop
  | .domain d => special = true ∧ d ≠ [] ∧ d.any isForbiddenDomain = false ∧ endsInANumber d = false ∧
                 domainToAscii idna d = some d ∧ isAsciiBytes d = true
  | .ipv4 a => special = true ∧ a < 4294967296
  | .ipv6 p => p.length = 8 ∧ ∀ x ∈ p, x < 65536
  | .opaqueHost o => special = false ∧ o ≠ [] ∧ o.any isForbiddenHost = false ∧ ∀ b ∈ o, inC0 b = false
  | .empty => True

theorem nodrive_of_bytes (s : Bytes) (h : ∀ b ∈ s, b ≠ 0x3A ∧ b ≠ 0x7C) : isWindowsDriveLetter s = false := by
  unfold isWindowsDriveLetter
  split
  · rename_i a b
    have := h b (by simp)
    have e1 : (b == 0x3A) = false := by simpa using this.1
    have e2 : (b == 0x7C) = false := by simpa using this.2
    simp [e1, e2]
  · rfl

theorem plainHost (s : Bytes) (h : ∀ b ∈ s, PlainHostByte b) :
    (∀ b ∈ s, HostByte b) ∧ (∀ r, (r = [] ∨ r.head? = some 0x3A) → hostEnd (s ++ r) = s.length) ∧
    isWindowsDriveLetter s = false :=
  ⟨fun b hb => (h b hb).1,
   fun r hr => hostEnd_plain s r (fun b hb => ⟨(h b hb).2.1, (h b hb).2.2.1, (h b hb).2.2.2.1⟩) hr,
   nodrive_of_bytes s (fun b hb => ⟨(h b hb).2.1, (h b hb).2.2.2.2⟩)⟩

theorem hostOk_of_canon (idna : Idna) (special : Bool) (h : Host) (hc : HostCanon idna special h) :
    HostOk idna special h := by
  cases h with
  | domain d =>
    obtain ⟨hsp, hne, hforb, hnum, hidna, hasc⟩ := hc
    have hb : ∀ b ∈ d, isForbiddenDomain b = false := by simpa [List.any_eq_false] using hforb
    have hasc' : ∀ b ∈ d, b.toNat < 0x80 := by simpa [isAsciiBytes] using hasc
    have hf := fun b hx => forbDomain_facts b (hb b hx) (hasc' b hx)
    obtain ⟨p1, p2, p3⟩ := plainHost d
      (fun b hx => ⟨(hf b hx).1, (hf b hx).2.1, (hf b hx).2.2.1, (hf b hx).2.2.2.1, (hf b hx).2.2.2.2.2⟩)
    refine ⟨fun _ => ?_, fun _ => hne, p1, p2, p3⟩
    subst hsp
    have hpd : percentDecode d = d := percentDecode_no_pct _ (fun b hx => (hf b hx).2.2.2.2.1)
    simp only [Host.serialize, Bool.not_true]
    unfold hostParse
    split
    · exact absurd rfl (hf 0x5B (by simp)).2.2.1
    · simp [hpd, hidna, hforb, hnum]
  | ipv4 a =>
    obtain ⟨hsp, ha⟩ := hc
    obtain ⟨p1, p2, p3⟩ := plainHost _ (fun b hx => dd_host b (allDD_serialize a b hx))
    refine ⟨fun _ => ?_, fun _ => ?_, p1, p2, p3⟩
    · subst hsp; exact ipv4_host_fixed idna a ha
    · have := part_ne_nil (a / 16777216 % 256) (Nat.mod_lt _ (by decide))
      simp only [Host.serialize]; unfold ipv4Serialize
      intro h; simp at h
  | ipv6 p =>
    obtain ⟨hl, hb⟩ := hc
    have hf := fun b hx => v6_host b (BR.ipv6Parse_bytes _ p (V6.ipv6_roundtrip p hl hb) b hx)
    refine ⟨fun _ => ?_, fun _ => by simp [Host.serialize], fun b hx => ?_, fun r hr => ?_, ?_⟩
    · exact ipv6_host_fixed idna p hl hb _
    · simp only [Host.serialize, List.mem_append, List.mem_cons, List.not_mem_nil, or_false] at hx
      rcases hx with (rfl | hx) | rfl
      · exact hostByte_open
      · exact (hf b hx).1
      · exact hostByte_close
    · have := hostEnd_bracket (ipv6Serialize p) r (fun b hx => (hf b hx).2) hr
      simp only [Host.serialize, List.cons_append, List.append_assoc, List.length_cons,
        List.length_append, List.length_nil, List.nil_append] at this ⊢
      rw [this]
    · simp only [Host.serialize, List.cons_append]
      unfold isWindowsDriveLetter
      split
      · rename_i a b heq
        injection heq with h1 _
        subst h1
        have : isAsciiAlpha 0x5B = false := by decide
        simp [this]
      · rfl
  | opaqueHost o =>
    obtain ⟨hsp, hne, hforb, hc0⟩ := hc
    have hb : ∀ b ∈ o, isForbiddenHost b = false := by simpa [List.any_eq_false] using hforb
    have hf := fun b hx => forbHost_facts b (hb b hx) (hc0 b hx)
    have henc := percentEncode_id inC0 o hc0
    obtain ⟨p1, p2, p3⟩ := plainHost o hf
    refine ⟨fun _ => ?_, fun _ => hne, p1, p2, p3⟩
    subst hsp
    have h5b : o.head? ≠ some 0x5B := by
      intro h
      cases o with
      | nil => exact hne rfl
      | cons c t =>
        have : c = 0x5B := by simpa using h
        exact (hf c (by simp)).2.2.1 this
    have := opaque_host_fixed idna o hne h5b (by rw [henc]; exact hforb)
    rwa [henc] at this
  | empty =>
    refine ⟨fun h => absurd rfl h, fun h => absurd rfl h, fun b hx => by simp [Host.serialize] at hx, fun r hr => ?_, by decide⟩
    simp only [Host.serialize, List.nil_append, List.length_nil]
    unfold hostEnd
    exact hostEnd_stop r 0 hr

theorem parsePort_dec (scheme : Bytes) (p : Nat) (h : portOk scheme (some p)) : parsePort scheme (natToDec p) = some (some p) := by
  obtain ⟨h1, h2⟩ := h
  obtain ⟨d1, d2, d3⟩ := natToDec_spec p h1
  unfold parsePort
  have hne : (natToDec p).isEmpty = false := List.isEmpty_eq_false_iff.2 d2
  have h3 : ¬ p > 65535 := by omega
  simp [d1, hne, d3, h3, h2]

theorem splitCredentials_none (hp : Bytes) (h : (0x40 : UInt8) ∉ hp) : splitCredentials hp = (none, hp) := by
  simp [splitCredentials, lastIndexOf, lastIndexOf_go_none _ _ _ _ h]

theorem splitCredentials_some (cred hp : Bytes) (h : (0x40 : UInt8) ∉ hp) :
    splitCredentials (cred ++ 0x40 :: hp) = (some cred, hp) := by
  simp [splitCredentials, lastIndexOf, lastIndexOf_go_last _ _ _ _ _ h]

def credText (user pass : Bytes) : Bytes := user ++ (if !pass.isEmpty then 0x3A :: pass else [])

theorem cutAt_credText (user pass : Bytes) (hu : ∀ b ∈ user, inUserinfo b = false) :
    cutAt 0x3A (credText user pass) = (user, if pass.isEmpty then none else some pass) := by
  have hc : (0x3A : UInt8) ∉ user := fun hm => (userinfo_facts _ (hu _ hm)).2 rfl
  unfold credText
  by_cases hp : pass.isEmpty = true
  · simp [hp, cutAt_none _ _ hc]
  · simp [hp, cutAt_some _ _ _ hc]

theorem credUser_text (user pass : Bytes) (hu : ∀ b ∈ user, inUserinfo b = false) :
    credUser (some (credText user pass)) = user := by
  simp only [credUser, cutAt_credText user pass hu]
  exact percentEncode_id _ _ hu

theorem credPass_text (user pass : Bytes) (hu : ∀ b ∈ user, inUserinfo b = false) (hpw : ∀ b ∈ pass, inUserinfo b = false) :
    credPass (some (credText user pass)) = pass := by
  simp only [credPass, cutAt_credText user pass hu]
  by_cases hp : pass.isEmpty = true
  · simp [hp, percentEncode, List.isEmpty_iff.1 hp]
  · simp only [hp, Bool.false_eq_true, ↓reduceIte, Option.getD_some]
    exact percentEncode_id _ _ hpw

def portText (p : Option Nat) : Bytes := match p with | some p => 0x3A :: natToDec p | none => []

theorem parseHostPort_canon (idna : Idna) (scheme : Bytes) (h : Host) (port : Option Nat)
    (hok : HostOk idna (isSpecialScheme scheme) h) (hp : portOk scheme port) (hne : h ≠ .empty) :
    parseHostPort idna scheme (h.serialize ++ portText port) = some (h, port) := by
  have hsne := hok.ne hne
  unfold parseHostPort
  cases port with
  | none =>
    have he := hok.hend [] (Or.inl rfl)
    simp only [portText, List.append_nil] at he ⊢
    have hemp : h.serialize.isEmpty = false := List.isEmpty_eq_false_iff.2 hsne
    simp [he, hemp, hok.reparse hne]
  | some p =>
    have he := hok.hend (0x3A :: natToDec p) (Or.inr rfl)
    have hlt : h.serialize.length < (h.serialize ++ 0x3A :: natToDec p).length := by simp
    have hemp : h.serialize.isEmpty = false := List.isEmpty_eq_false_iff.2 hsne
    simp only [portText, he, hlt, ↓reduceIte, List.take_left', hemp, Bool.false_eq_true, hok.reparse hne]
    have hd : (h.serialize ++ 0x3A :: natToDec p).drop (h.serialize.length + 1) = natToDec p := by
      rw [show h.serialize ++ 0x3A :: natToDec p = (h.serialize ++ [0x3A]) ++ natToDec p by simp]
      exact List.drop_left' (by simp)
    rw [hd, parsePort_dec scheme p hp]

theorem parseHostPort_empty (idna : Idna) (scheme : Bytes) (hs : isSpecialScheme scheme = false) :
    parseHostPort idna scheme [] = some (.empty, none) := by
  simp [parseHostPort, hostEnd, hostEnd.go, hs]

def hasCred (user pass : Bytes) : Bool := !user.isEmpty || !pass.isEmpty

def authText (user pass : Bytes) (h : Host) (port : Option Nat) : Bytes :=
  (if hasCred user pass then credText user pass ++ [0x40] else []) ++ (h.serialize ++ portText port)

theorem hostport_bytes {scheme : Bytes} (idna : Idna) (sp : Bool) (h : Host) (port : Option Nat) (hok : HostOk idna sp h)
    (hp : portOk scheme port) : ∀ b ∈ h.serialize ++ portText port, HostByte b := by
  intro b hb
  rcases List.mem_append.mp hb with hb | hb
  · exact hok.bytes b hb
  · cases port with
    | none => simp [portText] at hb
    | some p =>
      simp only [portText, List.mem_cons] at hb
      rcases hb with rfl | hb
      · exact hostByte_colon
      · have := (natToDec_spec p hp.1).1
        simp only [List.all_eq_true] at this
        exact (dd_host b (Or.inl (this b hb))).1

theorem credText_bytes (user pass : Bytes) (hu : ∀ b ∈ user, inUserinfo b = false) (hpw : ∀ b ∈ pass, inUserinfo b = false) :
    ∀ b ∈ credText user pass ++ [0x40], AuthByte b := by
  intro b hb
  simp only [credText, List.mem_append, List.mem_singleton] at hb
  rcases hb with (hb | hb) | rfl
  · exact (userinfo_facts b (hu b hb)).1.2
  · split at hb
    · rcases List.mem_cons.mp hb with rfl | hb
      · exact hostByte_colon.2
      · exact (userinfo_facts b (hpw b hb)).1.2
    · simp at hb
  · exact authByte_at

theorem parseAuthority_canon (idna : Idna) (scheme user pass : Bytes) (h : Host) (port : Option Nat)
    (hu : ∀ b ∈ user, inUserinfo b = false) (hpw : ∀ b ∈ pass, inUserinfo b = false)
    (hok : HostOk idna (isSpecialScheme scheme) h) (hp : portOk scheme port)
    (he : h = .empty → isSpecialScheme scheme = false ∧ user = [] ∧ pass = [] ∧ port = none) :
    (parseAuthority idna scheme (authText user pass h port)).map (fun a => (a.username, a.password, a.host, a.port)) =
      some (user, pass, h, port) := by
  by_cases hne : h = .empty
  · -- the empty host of a non-special URL: the authority text is empty
    obtain ⟨hs, rfl, rfl, rfl⟩ := he hne
    subst hne
    have := splitCredentials_none [] (by simp)
    simp [authText, hasCred, portText, Host.serialize, parseAuthority, this, parseHostPort_empty idna scheme hs,
      credUser, credPass]
  have hat : (0x40 : UInt8) ∉ h.serialize ++ portText port := fun hm => (hostport_bytes idna _ h port hok hp _ hm).1 rfl
  have hhp := parseHostPort_canon idna scheme h port hok hp hne
  have hnemp : (h.serialize ++ portText port).isEmpty = false :=
    List.isEmpty_eq_false_iff.2 (fun e => hok.ne hne (List.append_eq_nil_iff.1 e).1)
  unfold parseAuthority authText
  by_cases hc : hasCred user pass = true
  · simp only [hc, ↓reduceIte, List.append_assoc, List.singleton_append, splitCredentials_some _ _ hat, Option.isSome_some,
      hnemp, Bool.and_false, Bool.false_eq_true, hhp, Option.map_some, credUser_text user pass hu,
      credPass_text user pass hu hpw]
  · have hu0 : user = [] ∧ pass = [] := by
      simp only [hasCred, Bool.or_eq_true, Bool.not_eq_eq_eq_not, Bool.not_true, not_or, Bool.not_eq_false,
        List.isEmpty_iff] at hc
      exact hc
    obtain ⟨rfl, rfl⟩ := hu0
    simp [hc, splitCredentials_none _ hat, hhp, credUser, credPass]

def pathText (path : List Bytes) : Bytes := path.flatMap (fun seg => 0x2F :: seg)

theorem pathText_cons (seg : Bytes) (more : List Bytes) : pathText (seg :: more) = 0x2F :: joinTail seg more := by
  simp [pathText, joinTail]

theorem pathText_head (path : List Bytes) : pathText path = [] ∨ (pathText path).head? = some 0x2F := by
  cases path with
  | nil => left; rfl
  | cons s m => right; simp [pathText_cons]

theorem pathState_canon (scheme : Bytes) (seg : Bytes) (more : List Bytes)
    (hs : ∀ s ∈ seg :: more, SegOk (isSpecialScheme scheme) s)
    (hd : scheme = bFile → isWindowsDriveLetter seg = true → isNormalizedWindowsDriveLetter seg = true) :
    pathState scheme [] (joinTail seg more) = seg :: more := by
  unfold pathState
  rw [splitPath_join _ seg more (fun s hx => (hs s hx).sep)]
  rw [pathSegments_canon scheme (seg :: more) [] hs (fun hf _ s hh hw => by
    have : s = seg := by simpa using hh.symm
    subst this; exact hd hf hw)]
  simp

theorem pathStartState_canon (scheme : Bytes) (path : List Bytes)
    (hs : ∀ s ∈ path, SegOk (isSpecialScheme scheme) s)
    (hd : scheme = bFile → ∀ s, path.head? = some s → isWindowsDriveLetter s = true → isNormalizedWindowsDriveLetter s = true)
    (hne : isSpecialScheme scheme = true → path ≠ []) :
    pathStartState scheme (pathText path) = path := by
  cases path with
  | nil =>
    have hsp : isSpecialScheme scheme = false := by
      cases h : isSpecialScheme scheme with
      | false => rfl
      | true => exact absurd rfl (hne h)
    simp [pathStartState, pathText, hsp]
  | cons seg more =>
    have hp := pathState_canon scheme seg more hs (fun hf hw => hd hf seg rfl hw)
    rw [pathText_cons]
    unfold pathStartState
    split <;> simp [hp]

theorem authorityEnd_stop (sp : Bool) (a r : Bytes) (ha : ∀ b ∈ a, isSep sp b = false)
    (hr : ∀ b, r.head? = some b → isSep sp b = true) : authorityEnd sp (a ++ r) = a.length := by
  have stop : r = [] ∨ ∃ c t, r = c :: t ∧ (!isSep sp c) = false := by
    cases r with
    | nil => exact Or.inl rfl
    | cons c t => exact Or.inr ⟨c, t, rfl, by rw [hr c rfl]; rfl⟩
  unfold authorityEnd
  rw [show (fun b => !(b == 0x2F || (sp && b == 0x5C))) = (fun b => !isSep sp b) from rfl,
    takeWhile_prefix_stop _ a r stop, takeWhile_eq_self _ a (fun x hx => by rw [ha x hx]; rfl)]

theorem authorityEnd_canon (sp : Bool) (a r : Bytes) (ha : ∀ b ∈ a, b ≠ 0x2F ∧ b ≠ 0x5C)
    (hr : r = [] ∨ r.head? = some 0x2F) : authorityEnd sp (a ++ r) = a.length := by
  apply authorityEnd_stop sp a r (fun b hb => by simp [isSep, (ha b hb).1, (ha b hb).2])
  intro b hb
  rcases hr with rfl | hr
  · simp at hb
  · rw [hr] at hb; injection hb with e; simp [isSep, ← e]

theorem authText_bytes (idna : Idna) (scheme user pass : Bytes) (h : Host) (port : Option Nat)
    (hu : ∀ b ∈ user, inUserinfo b = false) (hpw : ∀ b ∈ pass, inUserinfo b = false)
    (hok : HostOk idna (isSpecialScheme scheme) h) (hp : portOk scheme port) :
    ∀ b ∈ authText user pass h port, AuthByte b := by
  intro b hb
  unfold authText at hb
  rcases List.mem_append.mp hb with hb | hb
  · split at hb
    · exact credText_bytes user pass hu hpw b hb
    · simp at hb
  · exact (hostport_bytes idna _ h port hok hp b hb).2

theorem fromAuthority_canon (idna : Idna) (scheme user pass : Bytes) (h : Host) (port : Option Nat) (path : List Bytes)
    (hu : ∀ b ∈ user, inUserinfo b = false) (hpw : ∀ b ∈ pass, inUserinfo b = false)
    (hok : HostOk idna (isSpecialScheme scheme) h) (hp : portOk scheme port)
    (he : h = .empty → isSpecialScheme scheme = false ∧ user = [] ∧ pass = [] ∧ port = none)
    (hs : ∀ s ∈ path, SegOk (isSpecialScheme scheme) s)
    (hd : scheme = bFile → ∀ s, path.head? = some s → isWindowsDriveLetter s = true → isNormalizedWindowsDriveLetter s = true)
    (hpne : isSpecialScheme scheme = true → path ≠ []) :
    fromAuthority idna scheme (authText user pass h port ++ pathText path) =
      some { scheme, username := user, password := pass, host := some h, port := port, path := path } := by
  have hab := authText_bytes idna scheme user pass h port hu hpw hok hp
  have hn := authorityEnd_canon (isSpecialScheme scheme) (authText user pass h port) (pathText path)
    (fun b hb => ⟨(hab b hb).1, (hab b hb).2.1⟩) (pathText_head path)
  have hpa := parseAuthority_canon idna scheme user pass h port hu hpw hok hp he
  unfold fromAuthority
  simp only [hn, List.take_left', List.drop_left']
  cases hx : parseAuthority idna scheme (authText user pass h port) with
  | none => rw [hx] at hpa; simp at hpa
  | some a =>
    rw [hx] at hpa
    simp only [Option.map_some, Option.some.injEq, Prod.mk.injEq] at hpa
    obtain ⟨h1, h2, h3, h4⟩ := hpa
    simp only [h1, h2, h3, h4, pathStartState_canon scheme path hs hd hpne]

def qText : Option Bytes → Bytes | some q => 0x3F :: q | none => []
def fText : Option Bytes → Bytes | some f => 0x23 :: f | none => []

theorem qText_sfx (q : Option Bytes) : qText q = Cut.sfx 0x3F q := by cases q <;> rfl
theorem fText_sfx (f : Option Bytes) : fText f = Cut.sfx 0x23 f := by cases f <;> rfl

def restText (u : Url) : Bytes :=
  match u.host with
  | some h => 0x2F :: 0x2F :: (authText u.username u.password h u.port ++ u.pathSerialized)
  | none => (if !u.isOpaque && u.path.length > 1 && u.path.head? == some [] then [0x2F, 0x2E] else []) ++ u.pathSerialized

theorem href_split (u : Url) : u.href = (u.scheme ++ 0x3A :: restText u) ++ qText u.query ++ fText u.fragment := by
  unfold Url.href restText authText credText hasCred portText
  cases hh : u.host with
  | none =>
    -- what is left to split: the `/.` guard
    cases hq : u.query <;> cases hf : u.fragment <;>
      simp only [qText, fText, List.append_nil, List.append_assoc] <;> split <;> simp [List.append_assoc]
  | some h =>
    -- what is left to split: are there credentials, and is there a password among them
    cases hp : u.port <;> cases hq : u.query <;> cases hf : u.fragment <;>
      simp only [qText, fText, List.append_nil, List.append_assoc, List.cons_append, List.nil_append] <;>
      split <;> simp [List.append_assoc] <;> split <;> simp

/-- the canonical form of a URL record: every component is a fixed point of the state that produces it -/
structure Canon (idna : Idna) (u : Url) : Prop where
  scheme : schemeOk u.scheme = true
  user : ∀ b ∈ u.username, inUserinfo b = false
  pass : ∀ b ∈ u.password, inUserinfo b = false
  host : ∀ h, u.host = some h → HostCanon idna u.isSpecial h
  port : portOk u.scheme u.port
  nocred : (u.host = none ∨ u.host = some .empty ∨ u.scheme = bFile) → u.username = [] ∧ u.password = [] ∧ u.port = none
  special : u.isSpecial = true → u.isOpaque = false ∧ u.path ≠ [] ∧ ∃ h, u.host = some h ∧ (u.scheme ≠ bFile → h ≠ .empty)
  file : u.scheme = bFile → u.host ≠ some (.domain bLocalhost)
  segs : u.isOpaque = false → ∀ s ∈ u.path, SegOk u.isSpecial s
  drive : u.scheme = bFile → ∀ s, u.path.head? = some s → isWindowsDriveLetter s = true → isNormalizedWindowsDriveLetter s = true
  nonopq : u.isOpaque = false → u.opath = [] ∧ (u.host = none → u.path ≠ [])
  opq : u.isOpaque = true → u.host = none ∧ u.path = [] ∧ (∀ b ∈ u.opath, inC0 b = false ∧ b ≠ 0x3F ∧ b ≠ 0x23) ∧
    u.opath.head? ≠ some 0x2F ∧ u.opath.getLast? ≠ some 0x20
  query : ∀ q, u.query = some q → ∀ b ∈ q, (if u.isSpecial then inSpecialQuery b else inQuery b) = false
  frag : ∀ f, u.fragment = some f → ∀ b ∈ f, inFragment b = false

theorem Canon.invOk {idna : Idna} {u : Url} (hc : Canon idna u) : InvOk u := by
  refine ⟨hc.scheme, ?_, hc.special, hc.nocred, hc.port, fun h => (hc.opq h).1⟩
  cases hh : u.host with
  | none => rfl
  | some h =>
    have := hc.host h hh
    cases h with
    | domain d => simpa [hostWf] using this.2.1
    | opaqueHost o => simpa [hostWf] using this.2.1
    | ipv4 a => rfl
    | ipv6 p => rfl
    | empty => rfl

theorem skipSlashes_canon (a r : Bytes) (hne : a ≠ []) (ha : ∀ b ∈ a, b ≠ 0x2F ∧ b ≠ 0x5C) :
    skipSlashes (0x2F :: 0x2F :: (a ++ r)) = a ++ r := by
  cases a with
  | nil => exact absurd rfl hne
  | cons c t =>
    have := ha c (by simp)
    have e1 : (c == 0x2F) = false := by simpa using this.1
    have e2 : (c == 0x5C) = false := by simpa using this.2
    simp [skipSlashes, e1, e2]

theorem fileHost_canon (idna : Idna) (h : Host) (path : List Bytes)
    (hok : HostOk idna true h) (hloc : h ≠ .domain bLocalhost)
    (hs : ∀ s ∈ path, SegOk true s)
    (hd : ∀ s, path.head? = some s → isWindowsDriveLetter s = true → isNormalizedWindowsDriveLetter s = true)
    (hpne : path ≠ []) :
    fileHost idna (h.serialize ++ pathText path) = some { scheme := bFile, host := some h, path := path } := by
  have hn := authorityEnd_canon true h.serialize (pathText path)
    (fun b hb => ⟨(hok.bytes b hb).2.1, (hok.bytes b hb).2.2.1⟩) (pathText_head path)
  have hps := pathStartState_canon bFile path (by simpa [special_file] using hs) (fun _ => hd) (fun _ => hpne)
  unfold fileHost
  simp only [hn, List.take_left', List.drop_left', hok.nodrive, Bool.false_eq_true, ↓reduceIte, hps]
  by_cases he : h = .empty
  · subst he; simp [Host.serialize]
  · have hne := hok.ne he
    have hemp : h.serialize.isEmpty = false := List.isEmpty_eq_false_iff.2 hne
    have hr := hok.reparse he
    simp only [Bool.not_true] at hr
    have hloc' : (h == Host.domain bLocalhost) = false := by simpa using hloc
    simp [hemp, hr, hloc']

theorem pathSerialized_nonopaque (u : Url) (h : u.isOpaque = false) : u.pathSerialized = pathText u.path := by
  simp [Url.pathSerialized, pathText, h]
theorem pathSerialized_opaque (u : Url) (h : u.isOpaque = true) : u.pathSerialized = u.opath := by
  simp [Url.pathSerialized, h]

theorem opaquePathState_id (s : Bytes) (hb : ∀ b ∈ s, inC0 b = false) (hl : s.getLast? ≠ some 0x20) (f : Bool) :
    opaquePathState s f = s := by
  unfold opaquePathState
  split
  · rename_i heq; exact absurd heq hl
  · exact percentEncode_id _ _ hb

theorem pathState_dot (scheme : Bytes) (t : Bytes) :
    pathState scheme [] (0x2E :: 0x2F :: t) = pathState scheme [] t := by
  unfold pathState
  have e : splitPath (isSpecialScheme scheme) (0x2E :: 0x2F :: t) = [0x2E] :: splitPath (isSpecialScheme scheme) t := by
    have := splitPath_cons (isSpecialScheme scheme) [0x2E] t (by intro b hb; simp at hb; subst hb; simp [isSep])
    simpa using this
  rw [e]
  have hne := splitPath_ne_nil (isSpecialScheme scheme) t
  have hemp : (splitPath (isSpecialScheme scheme) t).isEmpty = false := List.isEmpty_eq_false_iff.2 hne
  have h1 : percentEncode inPath [0x2E] = [0x2E] := by decide
  have h2 : isDoubleDot [0x2E] = false := by decide
  have h3 : isSingleDot [0x2E] = true := by decide
  rw [pathSegments]
  simp only [h1, h2, h3, hemp, Bool.false_eq_true, ↓reduceIte]

/-- The text of a host-less path after its first slash, the `/.` guard included: it does not begin with a second
    slash (so it is not read as an authority) and the path state gives the path back. -/
theorem noHostPath_canon (scheme : Bytes) (path : List Bytes) (hns : isSpecialScheme scheme = false)
    (hne : path ≠ []) (hs : ∀ s ∈ path, SegOk false s) :
    ∃ t, (if (decide (path.length > 1) && path.head? == some []) = true then [0x2F, 0x2E] else []) ++ pathText path
        = 0x2F :: t ∧ t.head? ≠ some 0x2F ∧ pathState scheme [] t = path := by
  cases path with
  | nil => exact absurd rfl hne
  | cons seg more =>
    have hnf : scheme ≠ bFile := fun e => by subst e; simp [special_file] at hns
    have hps := pathState_canon scheme seg more (by rw [hns]; exact hs) (fun e => absurd e hnf)
    rw [pathText_cons]
    cases seg with
    | nil =>
      cases more with
      | nil => exact ⟨joinTail [] [], by simp, by simp [joinTail], hps⟩
      | cons m ms =>
        refine ⟨0x2E :: 0x2F :: joinTail [] (m :: ms), by simp, by simp, ?_⟩
        rw [pathState_dot, hps]
    | cons c t =>
      refine ⟨joinTail (c :: t) more, by simp, ?_, hps⟩
      have := (hs (c :: t) (by simp)).sep c (by simp)
      simpa [isSep, joinTail] using this

/-- The parser run on the part of the href before the query.  The cases are those of the record: a host and scheme
    `file` (file, file slash, file host states); a host and a special scheme (the slashes are skipped, then the
    authority); a host and another scheme (`//`, then the authority, where an empty host has an empty authority); no
    host and an opaque path; no host and a path (`noHostPath_canon`). -/
theorem parseCore_canon (idna : Idna) (u : Url) (hc : Canon idna u) (tail : Bytes) (hasQ hasF : Bool) :
    parseCore idna none (u.scheme ++ 0x3A :: restText u) tail hasQ hasF =
      some { u with query := none, fragment := none } := by
  obtain ⟨scheme, user, pass, host, port, isOpq, opath, path, query, frag⟩ := u
  obtain ⟨c_scheme, c_user, c_pass, c_host, c_port, c_nocred, c_special, c_file, c_segs, c_drive, c_nonopq, c_opq, _, _⟩ := hc
  simp only [Url.isSpecial] at c_scheme c_user c_pass c_host c_port c_nocred c_special c_file c_segs c_drive c_nonopq c_opq
  unfold parseCore
  rw [takeScheme_href _ _ c_scheme]
  simp only [restText]
  cases host with
  | some h =>
    have hcan := c_host h rfl
    have hok := hostOk_of_canon idna _ h hcan
    by_cases hf : scheme = bFile
    · subst hf
      obtain ⟨rfl, rfl, rfl⟩ := c_nocred (Or.inr (Or.inr rfl))
      obtain ⟨ho, hpne, _⟩ := c_special special_file
      subst ho
      have hsegs := c_segs rfl
      simp only [special_file] at hsegs hok
      have hfh := fileHost_canon idna h path hok (fun e => c_file rfl (by rw [e])) hsegs (c_drive rfl) hpne
      have hopath := (c_nonopq rfl).1
      subst hopath
      unfold pathText at hfh
      simp only [Url.pathSerialized, authText, hasCred, List.isEmpty_nil, Bool.not_true, Bool.or_self, Bool.false_eq_true, ↓reduceIte,
        portText, List.append_nil, List.nil_append, beq_self_eq_true, fileState, fileSlash, Bool.true_or, hfh]
    · have hfb : (scheme == bFile) = false := by simpa using hf
      have ho : isOpq = false := by
        cases isOpq with
        | false => rfl
        | true => exact absurd (c_opq rfl).1 (by simp)
      subst ho
      have hopath := (c_nonopq rfl).1
      subst hopath
      have hsegs := c_segs rfl
      have hab := authText_bytes idna scheme user pass h port c_user c_pass hok c_port
      by_cases hsp : isSpecialScheme scheme = true
      · obtain ⟨_, hpne, h', hh', hne⟩ := c_special hsp
        have : h' = h := by injection hh' with e; exact e.symm
        subst this
        have hne := hne hf
        have hfa := fromAuthority_canon idna scheme user pass h' port path c_user c_pass hok c_port (fun e => absurd e hne)
          hsegs c_drive (fun _ => hpne)
        have hane : authText user pass h' port ≠ [] := by
          have := hok.ne hne
          unfold authText
          intro e
          simp only [List.append_eq_nil_iff] at e
          exact this e.2.1
        unfold pathText at hfa
        simp only [hfb, hsp, Bool.false_eq_true, ↓reduceIte, Url.pathSerialized,
          skipSlashes_canon _ _ hane (fun b hb => ⟨(hab b hb).1, (hab b hb).2.1⟩), hfa]
      · have hsp' : isSpecialScheme scheme = false := by simpa using hsp
        simp only [hfb, hsp', Bool.false_eq_true, ↓reduceIte, Url.pathSerialized]
        have hfa := fromAuthority_canon idna scheme user pass h port path c_user c_pass hok c_port
          (fun e => ⟨hsp', c_nocred (Or.inr (Or.inl (e ▸ rfl)))⟩) hsegs c_drive (fun hh => by rw [hsp'] at hh; cases hh)
        unfold pathText at hfa
        simp only [hfa]
  | none =>
    obtain ⟨rfl, rfl, rfl⟩ := c_nocred (Or.inl rfl)
    have hsp : isSpecialScheme scheme = false := by
      cases hx : isSpecialScheme scheme with
      | false => rfl
      | true =>
        obtain ⟨_, _, h', hh', _⟩ := c_special hx
        cases hh'
    have hfb : (scheme == bFile) = false := by
      have : scheme ≠ bFile := by
        intro e; subst e; simp [special_file] at hsp
      simpa using this
    simp only [hfb, hsp, Bool.false_eq_true, ↓reduceIte]
    cases isOpq with
    | true =>
      obtain ⟨_, hp, hb, hhd, hlast⟩ := c_opq rfl
      subst hp
      have hid := opaquePathState_id opath (fun b hx => (hb b hx).1) hlast (hasQ || hasF)
      simp only [Url.pathSerialized, Bool.not_true, Bool.false_and, Bool.false_eq_true, ↓reduceIte, List.nil_append]
      split
      · simp at hhd
      · simp at hhd
      · rw [hid]
    | false =>
      have hopath := (c_nonopq rfl).1
      subst hopath
      have hpne := (c_nonopq rfl).2 rfl
      have hsegs := c_segs rfl
      rw [hsp] at hsegs
      obtain ⟨t, ht, hhd, hps⟩ := noHostPath_canon scheme path hsp hpne hsegs
      simp only [Url.pathSerialized, Bool.not_false, Bool.true_and, Bool.false_eq_true, ↓reduceIte]
      rw [show path.flatMap (fun seg => 0x2F :: seg) = pathText path from rfl, ht]
      split
      · rename_i heq; injection heq with _ h2; rw [h2] at hhd; simp at hhd
      · rename_i heq; injection heq with _ h2; rw [← h2, hps]
      · rename_i _ hx; exact absurd rfl (hx _)

def headText (u : Url) : Bytes :=
  u.scheme ++ 0x3A :: (match u.host with
    | some h => 0x2F :: 0x2F :: authText u.username u.password h u.port
    | none => if !u.isOpaque && u.path.length > 1 && u.path.head? == some [] then [0x2F, 0x2E] else [])

theorem pre_eq (u : Url) : u.scheme ++ 0x3A :: restText u = headText u ++ u.pathSerialized := by
  unfold restText headText
  cases u.host <;> simp

theorem headText_vis (idna : Idna) (u : Url) (hc : Canon idna u) : ∀ b ∈ headText u, Vis b := by
  intro b hb
  unfold headText at hb
  rcases List.mem_append.mp hb with hb | hb
  · exact (lowerScheme_facts b (schemeOk_bytes _ hc.scheme b hb)).2.2.2
  · rcases List.mem_cons.mp hb with rfl | hb
    · exact hostByte_colon.2.2.2
    · cases hh : u.host with
      | some h =>
        rw [hh] at hb
        simp only [List.mem_cons] at hb
        rcases hb with rfl | rfl | hb
        · exact vis_slash
        · exact vis_slash
        · have hok := hostOk_of_canon idna _ h (hc.host h hh)
          exact (authText_bytes idna u.scheme u.username u.password h u.port hc.user hc.pass hok hc.port b hb).2.2
      | none =>
        rw [hh] at hb
        simp only at hb
        split at hb
        · simp only [List.mem_cons, List.not_mem_nil, or_false] at hb
          rcases hb with rfl | rfl
          · exact vis_slash
          · exact vis_dot
        · simp at hb

theorem pathText_vis (sp : Bool) (path : List Bytes) (hs : ∀ s ∈ path, SegOk sp s) : ∀ b ∈ pathText path, Vis b := by
  intro b hb
  simp only [pathText, List.mem_flatMap, List.mem_cons] at hb
  obtain ⟨s, hs', hb⟩ := hb
  rcases hb with rfl | hb
  · exact vis_slash
  · exact notPath_vis ((hs s hs').enc b hb)

theorem bad_space : bad 0x20 = true := by decide

theorem pre_facts (idna : Idna) (u : Url) (hc : Canon idna u) :
    (∀ b ∈ u.scheme ++ 0x3A :: restText u,
      b ≠ 0x3F ∧ b ≠ 0x23 ∧ (bad b = false ∨ (b = 0x20 ∧ u.isOpaque = true ∧ b ∈ u.opath))) ∧
    (u.scheme ++ 0x3A :: restText u).getLast? ≠ some 0x20 := by
  rw [pre_eq]
  have hv := headText_vis idna u hc
  have vis_last : ∀ l : Bytes, (∀ b ∈ l, Vis b) → l.getLast? ≠ some 0x20 :=
    fun l hl => getLast?_ne_of_not_mem (fun hm => by have := (hl _ hm).2.2; rw [bad_space] at this; cases this)
  have hpath : (∀ b ∈ u.pathSerialized,
      b ≠ 0x3F ∧ b ≠ 0x23 ∧ (bad b = false ∨ (b = 0x20 ∧ u.isOpaque = true ∧ b ∈ u.opath))) ∧
      u.pathSerialized.getLast? ≠ some 0x20 := by
    cases ho : u.isOpaque with
    | false =>
      rw [pathSerialized_nonopaque u ho]
      have hp := pathText_vis _ u.path (hc.segs ho)
      exact ⟨fun b hb => ⟨(hp b hb).1, (hp b hb).2.1, Or.inl (hp b hb).2.2⟩, vis_last _ hp⟩
    | true =>
      rw [pathSerialized_opaque u ho]
      obtain ⟨_, _, hb, _, hlast⟩ := hc.opq ho
      exact ⟨fun b hx => ⟨(hb b hx).2.1, (hb b hx).2.2, (c0_sp b (hb b hx).1).imp id (fun e => ⟨e, rfl, hx⟩)⟩, hlast⟩
  refine ⟨fun b hb => ?_, getLast?_append_ne (vis_last _ hv) hpath.2⟩
  rcases List.mem_append.mp hb with hb | hb
  · exact ⟨(hv b hb).1, (hv b hb).2.1, Or.inl (hv b hb).2.2⟩
  · exact hpath.1 b hb

theorem qText_facts (idna : Idna) (u : Url) (hc : Canon idna u) : ∀ b ∈ qText u.query, b ≠ 0x23 ∧ bad b = false := by
  intro b hb
  cases hq : u.query with
  | none => rw [hq] at hb; simp [qText] at hb
  | some q =>
    rw [hq] at hb
    simp only [qText, List.mem_cons] at hb
    rcases hb with rfl | hb
    · decide
    · have := hc.query q hq b hb
      split at this
      · exact notQuery_vis (notSpecialQuery this)
      · exact notQuery_vis this

theorem fText_facts (idna : Idna) (u : Url) (hc : Canon idna u) : ∀ b ∈ fText u.fragment, bad b = false := by
  intro b hb
  cases hf : u.fragment with
  | none => rw [hf] at hb; simp [fText] at hb
  | some f =>
    rw [hf] at hb
    simp only [fText, List.mem_cons] at hb
    rcases hb with rfl | hb
    · decide
    · have := notFragment (hc.frag f hf b hb)
      exact (c0_sp b this.1).resolve_right this.2

/-- every byte of a canonical record's href is in 0x21..0x7E, except that a space may occur
    inside an opaque path; the href never ends in a space -/
theorem href_printable (idna : Idna) (u : Url) (hc : Canon idna u) :
    (∀ b ∈ u.href, bad b = false ∨ (b = 0x20 ∧ u.isOpaque = true ∧ b ∈ u.opath)) ∧
    (∀ l, u.href.getLast? = some l → bad l = false) := by
  have hq := qText_facts idna u hc
  have hf := fText_facts idna u hc
  obtain ⟨hpre, hlast⟩ := pre_facts idna u hc
  have hall : ∀ b ∈ u.href, bad b = false ∨ (b = 0x20 ∧ u.isOpaque = true ∧ b ∈ u.opath) := by
    intro b hb
    rw [href_split] at hb
    rcases List.mem_append.mp hb with hb | hb
    · rcases List.mem_append.mp hb with hb | hb
      · exact (hpre b hb).2.2
      · exact Or.inl (hq b hb).2
    · exact Or.inl (hf b hb)
  refine ⟨hall, fun l hl => (hall l (List.mem_of_getLast? hl)).resolve_right (fun h => ?_)⟩
  have nosp : ∀ t : Bytes, (∀ b ∈ t, bad b = false) → t.getLast? ≠ some 0x20 :=
    fun t ht => getLast?_ne_of_not_mem (fun hm => by have := ht _ hm; rw [bad_space] at this; cases this)
  rw [href_split, h.1] at hl
  exact getLast?_append_ne (getLast?_append_ne hlast (nosp _ (fun b hb => (hq b hb).2))) (nosp _ hf) hl

theorem preprocess_href (idna : Idna) (u : Url) (hc : Canon idna u) : preprocess u.href = u.href := by
  obtain ⟨hall, hlast⟩ := href_printable idna u hc
  apply preprocess_id
  · intro a ha
    have hs := hc.scheme
    rw [href_split] at ha
    cases hsch : u.scheme with
    | nil => rw [hsch] at hs; simp [schemeOk] at hs
    | cons c t =>
      rw [hsch] at hs ha
      simp only [schemeOk, Bool.and_eq_true] at hs
      simp only [List.cons_append, List.head?_cons, Option.some.injEq] at ha
      subst ha
      exact (lower_is_alpha _ hs.1).2.2
  · exact fun l hl => (bad_c0 l (hlast l hl)).1
  · intro a ha
    rcases hall a ha with h | h
    · exact (bad_c0 a h).2
    · rw [h.1]; decide

theorem cut_fragment (idna : Idna) (u : Url) (hc : Canon idna u) :
    cutAt 0x23 u.href = (u.scheme ++ 0x3A :: restText u ++ qText u.query, u.fragment) := by
  obtain ⟨hpb, _⟩ := pre_facts idna u hc
  have hq := qText_facts idna u hc
  have hno : (0x23 : UInt8) ∉ u.scheme ++ 0x3A :: restText u ++ qText u.query := by
    intro hm
    rcases List.mem_append.mp hm with hm | hm
    · exact (hpb _ hm).2.1 rfl
    · exact (hq _ hm).1 rfl
  rw [href_split, fText_sfx]
  exact Cut.cutAt_sfx _ _ _ hno

theorem cut_query (idna : Idna) (u : Url) (hc : Canon idna u) :
    cutAt 0x3F (u.scheme ++ 0x3A :: restText u ++ qText u.query) = (u.scheme ++ 0x3A :: restText u, u.query) := by
  obtain ⟨hpb, _⟩ := pre_facts idna u hc
  have hno : (0x3F : UInt8) ∉ u.scheme ++ 0x3A :: restText u := fun hm => (hpb _ hm).1 rfl
  rw [qText_sfx]
  exact Cut.cutAt_sfx _ _ _ hno

theorem parse_href_canon (idna : Idna) (u : Url) (hc : Canon idna u) : parse idna u.href none = some u := by
  unfold parse
  simp only [preprocess_href idna u hc, cut_fragment idna u hc, cut_query idna u hc, parseCore_canon idna u hc]
  have hq := hc.query
  have hf := hc.frag
  obtain ⟨scheme, user, pass, host, port, isOpq, opath, path, query, frag⟩ := u
  simp only [Url.isSpecial] at hq hf ⊢
  cases query with
  | none =>
    cases frag with
    | none => rfl
    | some f => simp only [percentEncode_id _ f (hf f rfl)]
  | some q =>
    have hqe : encodeQuery (isSpecialScheme scheme) q = q := by
      unfold encodeQuery
      have := hq q rfl
      split
      · rename_i hs; simp only [hs, ↓reduceIte] at this; exact percentEncode_id _ q this
      · rename_i hs; simp only [hs, Bool.false_eq_true, ↓reduceIte] at this; exact percentEncode_id _ q this
    cases frag with
    | none => simp only [hqe]
    | some f => simp only [hqe, percentEncode_id _ f (hf f rfl)]

end AdaVerif.Lemmas.FP
