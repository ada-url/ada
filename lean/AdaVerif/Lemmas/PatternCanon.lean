import AdaVerif.Model.PatternCanon
import AdaVerif.Spec.Pattern
import AdaVerif.Lemmas.Encode
import AdaVerif.Lemmas.DecimalOrder
import AdaVerif.Lemmas.TableWalk
import AdaVerif.Lemmas.FastPort
import AdaVerif.Lemmas.FixedPoint
import AdaVerif.Lemmas.Protocol
import AdaVerif.Lemmas.PathTrivial
import AdaVerif.Lemmas.AggSetPathname
import AdaVerif.Lemmas.KernIs4
import AdaVerif.Lemmas.HostFixed
import AdaVerif.Lemmas.HostParse
import AdaVerif.Lemmas.AggHostSetter
import AdaVerif.Lemmas.ParseAgg
/-
The models of ada's canonicalize_* callbacks and of the helpers around them (Model/PatternCanon.lean) are the URL Pattern
Standard's canonicalisation callbacks (Spec/Pattern.lean), for every value (Props/C15.lean); at the end, the component inputs
that `match()` / `test()` read off a parsed URL (Props/C14.lean).  The lemmas are `PC.*`, a namespace this file shares with
Lemmas/ParseCanon.lean.
-/
namespace AdaVerif.Lemmas.PC
open AdaVerif AdaVerif.Spec AdaVerif.Lemmas AdaVerif.Model AdaVerif.Model.Pattern AdaVerif.Model.PatternCanon

/-- "find the first byte to escape, copy the input if there is none, else encode from there" is the encoder -/
theorem encodeFromFirst_eq (set : List Nat) (v : Bytes) : encodeFromFirst set v = Spec.percentEncode (bitAt set) v := by
  unfold encodeFromFirst
  simp only
  rw [percentEncodeIndex_eq, Nat.zero_add]
  split
  · rename_i h
    exact (findFirst_eq_length set v (by simpa using h)).symm
  · exact percentEncodeFrom_eq set v _ (spec_take_findFirst set v)

theorem encode_nil (p : UInt8 → Bool) : Spec.percentEncode p [] = [] := rfl

theorem encodeNonEmpty_eq (set : List Nat) (v : Bytes) :
    (if v.isEmpty then [] else encodeFromFirst set v) = Spec.percentEncode (bitAt set) v := by
  rw [encodeFromFirst_eq]
  cases v <;> rfl

theorem stripEncode_eq (set : List Nat) (v : Bytes) :
    (if v.isEmpty then [] else
      let nv := stripTN v
      if nv.isEmpty then [] else encodeFromFirst set nv) = Spec.percentEncode (bitAt set) (stripTN v) := by
  simp only [encodeNonEmpty_eq]
  cases v <;> rfl

theorem username_eq (v : Bytes) : canonicalizeUsername v = Spec.Pattern.canonUsername v := by
  unfold canonicalizeUsername Spec.Pattern.canonUsername
  rw [encodeNonEmpty_eq, bitAt_userinfoSet]

theorem password_eq (v : Bytes) : canonicalizePassword v = Spec.Pattern.canonPassword v := username_eq v

theorem search_eq (v : Bytes) : canonicalizeSearch v = Spec.Pattern.canonSearch v := by
  unfold canonicalizeSearch Spec.Pattern.canonSearch
  rw [stripEncode_eq, bitAt_querySet]

theorem hash_eq (v : Bytes) : canonicalizeHash v = Spec.Pattern.canonHash v := by
  unfold canonicalizeHash Spec.Pattern.canonHash
  rw [stripEncode_eq, bitAt_fragmentSet]

theorem ipv6_eq (v : Bytes) : canonicalizeIpv6Hostname v = Spec.Pattern.canonIpv6Hostname v := by
  unfold canonicalizeIpv6Hostname Spec.Pattern.canonIpv6Hostname
  have : v.any (fun c => c != 0x5B && c != 0x5D && c != 0x3A && !isAsciiHexDigit c) = !v.all Spec.Pattern.isIpv6PatternChar := by
    rw [List.not_all_eq_any_not]
    congr 1
    funext c
    simp only [Spec.Pattern.isIpv6PatternChar, bne]
    cases isAsciiHexDigit c <;> cases (c == 0x5B) <;> cases (c == 0x5D) <;> cases (c == 0x3A) <;> rfl
  rw [this]
  cases v.all Spec.Pattern.isIpv6PatternChar <;> rfl

theorem opaque_eq (v : Bytes) : canonicalizeOpaquePathname v = Spec.Pattern.canonOpaquePathname v := by
  unfold canonicalizeOpaquePathname Spec.Pattern.canonOpaquePathname
  split
  · rfl
  · simp only
    generalize (stripTN v).takeWhile (fun b => !(b == 0x3F || b == 0x23)) = pre
    generalize decide (pre.length < (stripTN v).length) = followed
    unfold opaquePathState
    simp only [Lemmas.percentEncode_eq, bitAt_c0Set]
    by_cases hl : pre.getLast? = some 0x20
    · rw [hl]
      cases followed <;> simp
    · have hb : (pre.getLast? == some 0x20) = false := by simpa using hl
      simp only [hb, Bool.and_false, Bool.false_eq_true, ↓reduceIte]

theorem portDigits_spec (v : Bytes) :
    portDigits v = if ((stripTN v).takeWhile isAsciiDigit).isEmpty then none else some ((stripTN v).takeWhile isAsciiDigit) := by
  unfold portDigits
  simp only
  cases stripTN v with
  | nil => rfl
  | cons c r =>
    by_cases hc : isAsciiDigit c = true
    · simp [hc]
    · have hc' : isAsciiDigit c = false := by simpa using hc
      simp [hc']

theorem natToDecF_parseRadix : ∀ (f : Nat) (sig : Bytes), sig ≠ [] → (∀ b ∈ sig, isAsciiDigit b = true) → sig.head? ≠ some 0x30 →
    sig.length ≤ f → natToDecF f (parseRadix 10 sig) = sig := Radix.natToDecF_parseRadix

theorem above_65535 (sig : Bytes) (h5 : sig.length = 5) (hd : ∀ b ∈ sig, isAsciiDigit b = true) :
    sig.map (·.toNat) > [0x36, 0x35, 0x35, 0x33, 0x35] ↔ parseRadix 10 sig > 65535 := by
  have code : ∀ x, isAsciiDigit x = true → x.toNat = 48 + digitVal x ∧ digitVal x < 10 :=
    fun x h => ⟨(Radix.digit_back x h).2.2.1, (Radix.digit_back x h).2.1⟩
  have h65 : ([0x36, 0x35, 0x35, 0x33, 0x35] : Bytes).all isAsciiDigit = true := by decide
  exact decimal_lex_iff UInt8.toNat digitVal 48 [0x36, 0x35, 0x35, 0x33, 0x35] sig h5.symm (fun x hx => code x (List.all_eq_true.mp h65 x hx))
    (fun x hx => code x (hd x hx))

/-- `canonicalize_port` on its digit string: leading zeros dropped, at most five significant digits, the
    lexicographic test against "65535" = the port state's number and range check, spelled back without leading zeros -/
theorem canonicalizePort_digits (digits : Bytes) (hne : digits ≠ []) (hd : ∀ b ∈ digits, isAsciiDigit b = true) :
    canonicalizePort digits =
      if parseRadix 10 digits > 65535 then none else some (natToDec (parseRadix 10 digits)) := by
  unfold canonicalizePort
  simp only
  have hval := FS.parseRadix_dropZeros 10 digits
  have hsub : ∀ b ∈ digits.dropWhile (· == 0x30), isAsciiDigit b = true :=
    fun b hb => hd b ((List.dropWhile_sublist _).subset hb)
  have hhead : (digits.dropWhile (· == 0x30)).head? ≠ some 0x30 := by
    intro e
    have := List.head?_dropWhile_not (· == (0x30 : UInt8)) digits
    rw [e] at this
    simp at this
  generalize digits.dropWhile (· == 0x30) = sig at hval hsub hhead
  rw [← hval]
  by_cases hemp : sig = []
  · subst hemp
    simp only [List.isEmpty_nil, ↓reduceIte]
    decide
  · have he : sig.isEmpty = false := FS.isEmpty_false_of_ne hemp
    simp only [he, Bool.false_eq_true, ↓reduceIte]
    have hback : sig.length ≤ 5 → natToDec (parseRadix 10 sig) = sig :=
      fun hl => natToDecF_parseRadix 40 sig hemp hsub hhead (by omega)
    by_cases h5 : sig.length = 5
    · have hb5 : (sig.length == 5) = true := by simpa using h5
      simp only [hb5, ↓reduceIte, above_65535 sig h5 hsub, decide_eq_true_eq, hback (by omega)]
    · have hb5 : (sig.length == 5) = false := by simpa using h5
      simp only [hb5, Bool.false_eq_true, ↓reduceIte]
      by_cases h6 : sig.length > 5
      · have := FS.six_digits_big sig hsub hhead h6
        simp [h6, this]
      · have hlt := Radix.parseRadix_lt sig hsub
        have : 10 ^ sig.length ≤ 10 ^ 4 := Nat.pow_le_pow_right (by decide) (by omega)
        have h4 : (10 : Nat) ^ 4 = 10000 := by decide
        have hng : ¬ parseRadix 10 sig > 65535 := by omega
        simp only [h6, ↓reduceIte, hng, hback (by omega)]

theorem port_eq (v : Bytes) : canonicalizePortFull v = Spec.Pattern.canonPort v none := by
  unfold canonicalizePortFull Spec.Pattern.canonPort
  split
  · rfl
  · rw [portDigits_spec]
    simp only
    split
    · rfl
    · rename_i hne
      have hne' : (stripTN v).takeWhile isAsciiDigit ≠ [] := by simpa using hne
      simp only [Option.bind_some]
      rw [canonicalizePort_digits _ hne' (fun _ hb => mem_takeWhile hb)]
      split
      · rfl
      · simp

theorem getSpecialPort_eq (s : Bytes) : getSpecialPort s = (defaultPort s).getD 0 := by
  have h := (Proto.type_facts s).2.2.1
  rw [← h]
  unfold getSpecialPort getSchemeType specialPortOf
  split
  · decide
  · simp only
    split
    · rfl
    · decide

theorem defaultPort_pos (s : Bytes) (q : Nat) (h : defaultPort s = some q) : q ≠ 0 := by
  unfold defaultPort at h
  split at h
  · cases h; decide
  split at h
  · cases h; decide
  split at h
  · cases h; decide
  split at h
  · cases h; decide
  split at h
  · cases h; decide
  cases h

/-- `get_special_port() != 0 && == port` is the Standard's "port is the scheme's default port": no default port is 0 -/
theorem ite_default_port (x : Option Nat) (p : Nat) (A B : Option Bytes) (hx : ∀ q, x = some q → q ≠ 0) :
    (if (x.getD 0 != 0 && x.getD 0 == p) = true then A else B) = (if (x == some p) = true then A else B) := by
  cases x with
  | none => simp
  | some q =>
    have hq := hx q rfl
    by_cases he : q = p
    · subst he; simp [hq]
    · simp [he, hq]

theorem port_with_protocol_eq (v protocol : Bytes) :
    canonicalizePortWithProtocol v protocol = Spec.Pattern.canonPort v (some (portProtocol protocol)) := by
  unfold canonicalizePortWithProtocol Spec.Pattern.canonPort
  split
  · rfl
  · rw [portDigits_spec]
    simp only
    by_cases hemp : ((stripTN v).takeWhile isAsciiDigit).isEmpty = true
    · simp only [hemp, ↓reduceIte]
    · simp only [hemp, Bool.false_eq_true, ↓reduceIte, Option.bind_some, getSpecialPort_eq]
      generalize parseRadix 10 ((stripTN v).takeWhile isAsciiDigit) = p
      by_cases hp : p > 65535
      · simp only [hp, ↓reduceIte]
      · simp only [hp, ↓reduceIte]
        exact ite_default_port _ p _ _ (defaultPort_pos _)

/-- the four flags of `char_class_table`, for all 256 bytes in one walk through the table: CHAR_SCHEME and CHAR_UPPER are the
    Standard's scheme code points and the capitals; what a CHAR_SIMPLE_HOSTNAME byte and a CHAR_SIMPLE_PATHNAME byte cannot be -/
theorem char_class : ∀ b : UInt8,
    (hasFlag 0 b = isSchemeChar b ∧ hasFlag 1 b = isAsciiUpper b) ∧
    (hasFlag 2 b = true → toLowerByte b = b ∧ b ≠ 0x25 ∧ isForbiddenDomain b = false ∧ b.toNat < 0x80 ∧ b ≠ 0x5B ∧ b ≠ 0x3A ∧
      Spec.Pattern.isHostTerminator b = false ∧ isTabOrNewline b = false ∧ isAsciiUpper b = false ∧ b ≠ 0x5D) ∧
    (hasFlag 3 b = true → inPath b = false ∧ b ≠ 0x2E ∧ b ≠ 0x25 ∧ b ≠ 0x5C ∧ b ≠ 0x3F ∧ b ≠ 0x23 ∧ isTabOrNewline b = false) :=
  forall_tget (T := Gen.charClassTable) (Q := fun b v =>
    ((v &&& tget Gen.charClassFlags 0 != 0) = isSchemeChar b ∧ (v &&& tget Gen.charClassFlags 1 != 0) = isAsciiUpper b) ∧
    ((v &&& tget Gen.charClassFlags 2 != 0) = true → toLowerByte b = b ∧ b ≠ 0x25 ∧ isForbiddenDomain b = false ∧ b.toNat < 0x80 ∧
      b ≠ 0x5B ∧ b ≠ 0x3A ∧ Spec.Pattern.isHostTerminator b = false ∧ isTabOrNewline b = false ∧ isAsciiUpper b = false ∧ b ≠ 0x5D) ∧
    ((v &&& tget Gen.charClassFlags 3 != 0) = true →
      inPath b = false ∧ b ≠ 0x2E ∧ b ≠ 0x25 ∧ b ≠ 0x5C ∧ b ≠ 0x3F ∧ b ≠ 0x23 ∧ isTabOrNewline b = false))
    (by decide +kernel) (by decide +kernel)

structure SimpleHostByte (b : UInt8) : Prop where
  lower : toLowerByte b = b
  noPercent : b ≠ 0x25
  allowed : isForbiddenDomain b = false
  ascii : b.toNat < 0x80
  noOpen : b ≠ 0x5B
  noColon : b ≠ 0x3A
  noTerminator : Spec.Pattern.isHostTerminator b = false
  noTab : isTabOrNewline b = false
  noUpper : isAsciiUpper b = false
  noClose : b ≠ 0x5D

theorem simple_host (b : UInt8) (h : hasFlag 2 b = true) : SimpleHostByte b := by
  obtain ⟨h1, h2, h3, h4, h5, h6, h7, h8, h9, h10⟩ := (char_class b).2.1 h
  exact ⟨h1, h2, h3, h4, h5, h6, h7, h8, h9, h10⟩

structure SimplePathByte (b : UInt8) : Prop where
  plain : inPath b = false
  noDot : b ≠ 0x2E
  noPercent : b ≠ 0x25
  noTab : isTabOrNewline b = false

theorem simple_path (b : UInt8) (h : hasFlag 3 b = true) : SimplePathByte b := by
  obtain ⟨h1, h2, h3, _, _, _, h7⟩ := (char_class b).2.2 h
  exact ⟨h1, h2, h3, h7⟩

theorem plain_path (t : Bytes) (h : ∀ b ∈ t, inPath b = false ∧ b ≠ 0x2E ∧ b ≠ 0x25) :
    (pathState [] [] t).flatMap (fun seg => 0x2F :: seg) = 0x2F :: t := by
  have hns : isSpecialScheme [] = false := by decide
  have := PP.trivial_eq [] t [] (fun b hb => ⟨(h b hb).1, (h b hb).2.2⟩) (fun hsp => by rw [hns] at hsp; cases hsp)
    (fun p hp => by
      have hmem := PP.splitPath_mem false t p hp
      constructor
      · intro e; rw [e] at hmem; exact (h _ (hmem _ (by simp))).2.1 rfl
      · intro e; rw [e] at hmem; exact (h _ (hmem _ (by simp))).2.1 rfl)
    (fun hf => by cases hf)
  simpa [pathState, FP.pathText] using this

theorem simple_path_state (m : Bytes) (hm : ∀ b ∈ m, hasFlag 3 b = true) (hh : m.head? = some 0x2F) :
    (pathState [] [] ((stripTN m).drop 1)).flatMap (fun seg => 0x2F :: seg) = m := by
  have hcl := fun b hb => simple_path b (hm b hb)
  rw [stripTN_id m (fun b hb => (hcl b hb).noTab)]
  cases m with
  | nil => cases hh
  | cons c t =>
    have hc : c = 0x2F := by simpa using hh
    subst hc
    exact plain_path t (fun b hb => ⟨(hcl b (by simp [hb])).plain, (hcl b (by simp [hb])).noDot, (hcl b (by simp [hb])).noPercent⟩)

/-- the shortcut of `canonicalize_pathname`: a value made of CHAR_SIMPLE_PATHNAME bytes is its own canonical form
    (the two-byte prefix put in front of a relative value is of that class too) -/
theorem pathname_fast (v : Bytes) (hne : v ≠ []) (hs : v.all (hasFlag 3) = true) : Spec.Pattern.canonPathname v = some v := by
  have hall : ∀ b ∈ v, hasFlag 3 b = true := by simpa using hs
  have hpre : ([0x2F, 0x2D] : Bytes).all (hasFlag 3) = true := by decide +kernel
  unfold Spec.Pattern.canonPathname
  simp only [FS.isEmpty_false_of_ne hne, Bool.false_eq_true, ↓reduceIte]
  by_cases hl : (v.head? == some 0x2F) = true
  · simp only [hl, ↓reduceIte]
    rw [simple_path_state v hall (by simpa using hl)]
  · simp only [hl, Bool.false_eq_true, ↓reduceIte]
    rw [simple_path_state ([0x2F, 0x2D] ++ v) (fun b hb => (List.mem_append.mp hb).elim (List.all_eq_true.mp hpre b) (hall b)) rfl]
    simp

theorem dummyParse_some (L : Nat) (input : Bytes) (a : Agg.Agg) (h1 : input.length ≤ L) (h2 : a.buf.length ≤ L) :
    dummyParse L input a = some a := by
  unfold dummyParse
  simp only [Nat.not_lt.mpr h1, Nat.not_lt.mpr h2, ↓reduceIte]

/-- the dummy URL of `canonicalize_pathname` as a record -/
def uFake : Url := { scheme := [0x66, 0x61, 0x6B, 0x65], host := some (.opaqueHost [0x66,0x61,0x6B,0x65,0x2D,0x75,0x72,0x6C]), path := [] }

theorem fakeUrl_layout : fakeUrl = Agg.layout (AggL.ofUrl uFake) := by decide +kernel
theorem uFake_inv : RecInv uFake = true := by decide +kernel
theorem uFake_ty : PP.TyOf uFake.scheme 1 := ⟨by decide, by decide⟩

/-- `set_pathname` on the dummy URL, then `get_pathname`: the path state with an override on a new record -/
theorem fake_setPathname (m : Bytes) (hm : m.head? = some 0x2F) :
    (setPathname uFake m).pathSerialized = (pathState [] [] ((stripTN m).drop 1)).flatMap (fun seg => 0x2F :: seg) := by
  have hopq : uFake.isOpaque = false := rfl
  have hsp : uFake.isSpecial = false := by decide
  unfold setPathname
  simp only [hopq, Bool.false_eq_true, ↓reduceIte, hsp]
  cases m with
  | nil => cases hm
  | cons c r =>
    have hc : c = 0x2F := by simpa using hm
    subst hc
    have hst : stripTN (0x2F :: r) = 0x2F :: stripTN r := by
      unfold stripTN
      rw [List.filter_cons]
      have : (!isTabOrNewline 0x2F) = true := by decide
      simp only [this, ↓reduceIte]
    rw [hst]
    simp only [beq_self_eq_true, ↓reduceIte, List.drop_succ_cons, List.drop_zero, Url.pathSerialized, Bool.false_eq_true]
    unfold pathState
    have h1 : isSpecialScheme uFake.scheme = false := by decide
    have h2 : isSpecialScheme [] = false := by decide
    rw [h1, h2, pathSegments_scheme uFake.scheme [] (by decide) (by decide)]

/-- the slow route of `canonicalize_pathname`: dummy URL, `set_pathname`, `get_pathname`, the two-byte prefix and its removal -/
theorem pathname_slow (L : Nat) (v : Bytes) (hne : v ≠ [])
    (hL : 15 ≤ L)
    (hfit : (Agg.layout (AggL.ofUrl (setPathname uFake (if v.head? == some 0x2F then v else [0x2F, 0x2D] ++ v)))).buf.length ≤ L) :
    (if v.all (hasFlag 3) then some v else canonicalizePathname L v) = Spec.Pattern.canonPathname v := by
  by_cases hs : v.all (hasFlag 3) = true
  · simp only [hs, ↓reduceIte]
    exact (pathname_fast v hne hs).symm
  · simp only [hs, Bool.false_eq_true, ↓reduceIte]
    unfold canonicalizePathname Spec.Pattern.canonPathname
    have he : v.isEmpty = false := FS.isEmpty_false_of_ne hne
    simp only [he, Bool.false_eq_true, ↓reduceIte, hs]
    rw [dummyParse_some L fakeText fakeUrl hL hL]
    simp only
    generalize hm : (if (v.head? == some 0x2F) = true then v else [0x2F, 0x2D] ++ v) = m at hfit ⊢
    have hmh : m.head? = some 0x2F := by
      rw [← hm]
      split
      · rename_i h; simpa using h
      · rfl
    have he2e := AggL.setPathname_end_to_end L 1 uFake m (AggL.credOk_of_recInv uFake uFake_inv) uFake_ty
    have hsp : uFake.isSpecial = false := by decide
    have hopq : uFake.isOpaque = false := rfl
    rw [hsp, ← fakeUrl_layout, hopq] at he2e
    simp only [Bool.false_eq_true, ↓reduceIte, hfit] at he2e
    rw [he2e]
    simp only [Bool.not_true, Bool.false_eq_true, ↓reduceIte]
    rw [Props.C07.getPathname_layout]
    have hps : (AggL.ofUrl (setPathname uFake m)).path = (setPathname uFake m).pathSerialized := rfl
    rw [hps, fake_setPathname m hmh]
    by_cases hl : (v.head? == some 0x2F) = true
    · simp only [hl, Bool.not_true, Bool.false_eq_true, ↓reduceIte]
    · simp only [hl, Bool.not_false, ↓reduceIte]
      split <;> rfl

/-- the shortcut of `canonicalize_hostname`: a value made of CHAR_SIMPLE_HOSTNAME bytes that `is_ipv4` does not claim
    is its own canonical form.  For a value with an ACE label (`xn--`) the Standard runs the full domain-to-ASCII; the
    hypothesis `hxn` says what ada's `to_ascii` answers there (it lower-cases every all-ASCII domain) -/
theorem hostname_fast (idna : Idna) (v : Bytes) (hne : v ≠ []) (hs : v.all (hasFlag 2) = true) (h4 : HostKernels.isIpv4 v = false)
    (hid : HP.IdnaAt idna v) (hxn : (splitOn 0x2E v).any startsWithXn = true → idna.toAscii v = some (v.map toLowerByte)) :
    Spec.Pattern.canonHostname idna v = some v := by
  have hall : ∀ b ∈ v, hasFlag 2 b = true := by simpa using hs
  have hcl := fun b hb => simple_host b (hall b hb)
  unfold Spec.Pattern.canonHostname
  have he : v.isEmpty = false := FS.isEmpty_false_of_ne hne
  simp only [he, Bool.false_eq_true, ↓reduceIte]
  rw [stripTN_id v (fun b hb => (hcl b hb).noTab)]
  rw [takeWhile_eq_self _ v (fun b hb => by simp [(hcl b hb).noTerminator])]
  have hhe : hostEnd v = v.length := by
    have := FP.hostEnd_plain v [] (fun b hb => ⟨(hcl b hb).noColon, (hcl b hb).noOpen, (hcl b hb).noClose⟩) (Or.inl rfl)
    rwa [List.append_nil] at this
  simp only [hhe, Nat.lt_irrefl, ↓reduceIte, he, Bool.false_eq_true]
  have hlowmap : v.map toLowerByte = v := map_eq_self _ v (fun b hb => (hcl b hb).lower)
  have hascii : isAsciiBytes v = true := by
    unfold isAsciiBytes
    simp only [List.all_eq_true, decide_eq_true_eq]
    exact fun b hb => (hcl b hb).ascii
  have hdta : domainToAscii idna v = some v := by
    unfold domainToAscii
    by_cases hx : (splitOn 0x2E v).any startsWithXn = true
    · have := hxn hx
      simp only [hascii, hx, Bool.not_true, Bool.and_false, Bool.false_eq_true, ↓reduceIte, this, hlowmap, he]
    · have hx' : (splitOn 0x2E v).any startsWithXn = false := by simpa using hx
      simp only [hascii, hx', Bool.not_false, Bool.and_self, ↓reduceIte, hlowmap, he, Bool.false_eq_true]
  have hend : endsInANumber v = false := by
    rw [← K4.isIpv4_eq v hne (fun b hb => (hcl b hb).noUpper)]; exact h4
  have hforb : v.any isForbiddenDomain = false := by
    simp only [List.any_eq_false]
    intro b hb
    simp [(hcl b hb).allowed]
  have hhp : hostParse idna v false = some (.domain v) := by
    cases v with
    | nil => exact absurd rfl hne
    | cons c t =>
      rw [HP.hostParse_plain idna c t (hcl c (by simp)).noOpen, percentDecode_no_pct _ (fun b hb => (hcl b hb).noPercent), hdta]
      simp only [hforb, Bool.false_eq_true, ↓reduceIte, hend]
  rw [hhp]; rfl

theorem scheme_char_facts : ∀ b : UInt8, isSchemeChar b = true →
    (isC0OrSpace b = false ∧ isTabOrNewline b = false ∧ b ≠ 0x23 ∧ b ≠ 0x3F) ∧
    ((b == 0x2B || b == 0x2D || b == 0x2E || isAsciiDigit b) = false → isAsciiAlpha b = true) := by
  apply forall_uint8_of_fin; decide +kernel

/-- no byte of "://dummy.test" is dropped by the parser's preprocessing or ends the scheme or authority scan
    (checked as a Boolean `all`: the kernel evaluates that many times faster than the bounded quantifier over the same list) -/
theorem suffix_class : ∀ b ∈ Spec.Pattern.dummySuffix, isC0OrSpace b = false ∧ isTabOrNewline b = false ∧ b ≠ 0x23 ∧ b ≠ 0x3F := by
  have h : (Spec.Pattern.dummySuffix.all fun b => !isC0OrSpace b && (!isTabOrNewline b && (b != 0x23 && b != 0x3F))) = true := by
    decide +kernel
  intro b hb
  simpa using List.all_eq_true.mp h b hb

theorem protocolUrl_scheme (idna : Idna) (c : UInt8) (t : Bytes) (hc : isAsciiAlpha c = true)
    (hall : ∀ x ∈ c :: t, isSchemeChar x = true) :
    (Spec.Pattern.protocolUrl idna (c :: t)).map (·.scheme) = some ((c :: t).map toLowerByte) := by
  have hcl := fun b (hb : b ∈ c :: t) => (scheme_char_facts b (hall b hb)).1
  have hx : ∀ b ∈ (c :: t) ++ Spec.Pattern.dummySuffix, isC0OrSpace b = false ∧ isTabOrNewline b = false ∧ b ≠ 0x23 ∧ b ≠ 0x3F := by
    intro b hb
    rcases List.mem_append.mp hb with e | e
    · exact hcl b e
    · exact suffix_class b e
  unfold Spec.Pattern.protocolUrl parse
  have hpre : preprocess ((c :: t) ++ Spec.Pattern.dummySuffix) = (c :: t) ++ Spec.Pattern.dummySuffix :=
    FP.preprocess_id _ (fun a ha => (hx a (List.mem_of_mem_head? ha)).1) (fun a ha => (hx a (List.mem_of_getLast? ha)).1)
      (fun a ha => (hx a ha).2.1)
  simp only [hpre]
  rw [cutAt_none 0x23 _ (fun hm => (hx _ hm).2.2.1 rfl)]
  simp only
  rw [cutAt_none 0x3F _ (fun hm => (hx _ hm).2.2.2 rfl)]
  simp only [Option.isSome_none]
  unfold parseCore
  have hts : takeScheme ((c :: t) ++ Spec.Pattern.dummySuffix) =
      some ((c :: t).map toLowerByte, [0x2F, 0x2F, 0x64, 0x75, 0x6D, 0x6D, 0x79, 0x2E, 0x74, 0x65, 0x73, 0x74]) :=
    FP.takeScheme_raw c t _ hc hall
  rw [hts]
  simp only
  generalize (c :: t).map toLowerByte = scheme
  by_cases hf : (scheme == bFile) = true
  · have : scheme = bFile := by simpa using hf
    subst this
    simp only [beq_self_eq_true, ↓reduceIte]
    rfl
  · simp only [hf, Bool.false_eq_true, ↓reduceIte]
    by_cases hsp : isSpecialScheme scheme = true
    · simp only [hsp, ↓reduceIte]
      have hsk : skipSlashes [0x2F, 0x2F, 0x64, 0x75, 0x6D, 0x6D, 0x79, 0x2E, 0x74, 0x65, 0x73, 0x74] =
          [0x64, 0x75, 0x6D, 0x6D, 0x79, 0x2E, 0x74, 0x65, 0x73, 0x74] := by decide
      rw [hsk]
      unfold fromAuthority parseAuthority parseHostPort
      simp only [hsp]
      rfl
    · have hsp' : isSpecialScheme scheme = false := by simpa using hsp
      simp only [hsp', Bool.false_eq_true, ↓reduceIte]
      unfold fromAuthority parseAuthority parseHostPort
      simp only [hsp']
      rfl

theorem schemeLoop_eq : ∀ (r : Bytes) (up : Bool),
    schemeLoop r up = if r.all (hasFlag 0) then some (up || r.any (hasFlag 1)) else none
  | [], up => by simp [schemeLoop]
  | c :: t, up => by
    rw [schemeLoop, schemeLoop_eq t]
    by_cases h : hasFlag 0 c = true <;> simp [h, Bool.or_assoc]

theorem special_names (idna : Idna) (input : Bytes) (h : isSpecialScheme input = true) :
    (Spec.Pattern.protocolUrl idna input).map (·.scheme) = some input := by
  unfold isSpecialScheme at h
  simp only [Bool.or_eq_true, beq_iff_eq] at h
  -- six names; each parse is evaluated with `idna` free: "dummy.test" is ASCII without an ACE label, so IDNA is never asked
  rcases h with ((((h | h) | h) | h) | h) | h <;> subst h <;> with_unfolding_all rfl

/-- `canonicalize_protocol`: the two shortcuts (a special scheme's name; letters, digits, '+', '-', '.' behind a letter,
    lower-cased when a capital occurs) give the scheme of the URL the Standard parses, `value ++ "://dummy.test"`; the rest
    takes the slow route `hslow`, which is that parse (`Props.C15.protocol_slow_route`) -/
theorem protocol_eq (idna : Idna) (L : Nat) (v : Bytes)
    (hslow : protocolSlow idna L v = (Spec.Pattern.protocolUrl idna v).map (·.scheme)) :
    canonicalizeProtocol idna L v = Spec.Pattern.canonProtocol idna v := by
  unfold canonicalizeProtocol Spec.Pattern.canonProtocol
  by_cases hne : v = []
  · subst hne; rfl
  have he : v.isEmpty = false := FS.isEmpty_false_of_ne hne
  simp only [he, Bool.false_eq_true, ↓reduceIte]
  generalize v = input at hslow hne ⊢
  by_cases hsp : Model.isSpecial input = true
  · simp only [hsp, ↓reduceIte]
    rw [Proto.isSpecial_eq] at hsp
    exact (special_names idna input hsp).symm
  · simp only [hsp, Bool.false_eq_true, ↓reduceIte]
    cases input with
    | nil => exact absurd rfl hne
    | cons c0 rest =>
      simp only
      by_cases hbad : (!hasFlag 0 c0 || c0 == 0x2B || c0 == 0x2D || c0 == 0x2E || isAsciiDigit c0) = true
      · simp only [hbad, ↓reduceIte]; exact hslow
      · simp only [hbad, Bool.false_eq_true, ↓reduceIte]
        have hb' : hasFlag 0 c0 = true ∧ (c0 == 0x2B || c0 == 0x2D || c0 == 0x2E || isAsciiDigit c0) = false := by
          simpa [Bool.or_assoc] using hbad
        have hs0 : isSchemeChar c0 = true := by rw [← (char_class c0).1.1]; exact hb'.1
        have halpha := (scheme_char_facts c0 hs0).2 hb'.2
        rw [schemeLoop_eq]
        by_cases h0 : rest.all (hasFlag 0) = true
        · have hall : ∀ x ∈ c0 :: rest, isSchemeChar x = true := by
            intro x hx
            rcases List.mem_cons.mp hx with e | e
            · rw [e]; exact hs0
            · rw [← (char_class x).1.1]; exact List.all_eq_true.mp h0 x e
          simp only [h0, ↓reduceIte, protocolUrl_scheme idna c0 rest halpha hall]
          cases hu : (hasFlag 1 c0 || rest.any (hasFlag 1)) with
          | true => rfl
          | false =>
            have hu' : ((c0 :: rest).any (hasFlag 1)) = false := hu
            have : (c0 :: rest).map toLowerByte = c0 :: rest :=
              map_eq_self _ _ (fun b hb => Lower.of_not_upper b (by
                rw [← (char_class b).1.2]
                simpa using List.any_eq_false.mp hu' b hb))
            simp only [this]
        · simp only [h0, Bool.false_eq_true, ↓reduceIte]
          exact hslow

/-- the dummy URL of `canonicalize_hostname` as a record -/
def uDummy : Url := { scheme := bHttps, host := some (.domain [0x64,0x75,0x6D,0x6D,0x79,0x2E,0x74,0x65,0x73,0x74]), path := [[]] }

theorem dummyUrl_layout : dummyUrl = Agg.layout (AggL.ofUrl uDummy) := by decide +kernel
theorem uDummy_inv : RecInv uDummy = true := by decide +kernel

theorem not_hostTerminator_eq (b : UInt8) : ((b != 0x23) && !AdaVerif.Model.UrlRec.isHardDelim true b) = !Spec.Pattern.isHostTerminator b := by
  simp only [AdaVerif.Model.UrlRec.isHardDelim, Spec.Pattern.isHostTerminator, bne, Bool.true_and]
  cases (b == 0x23) <;> cases (b == 0x2F) <;> cases (b == 0x3F) <;> cases (b == 0x5C) <;> rfl

open AdaVerif.Model.Agg AdaVerif.Lemmas.AggL in
theorem getHostname_nocred (l : L) (hu : l.user = []) (hp : l.pass = []) (hh : l.host.headD 0 ≠ 0x40) :
    getHostname (layout l) = l.host := PA.getHostname_layout l (fun _ _ => hh)

open AdaVerif.Model.Agg AdaVerif.Lemmas.AggL in
/-- the slow route of `canonicalize_hostname`: dummy URL "https://dummy.test", `set_hostname`, `get_hostname` -/
theorem hostname_slow (idna : Idna) (L : Nat) (v : Bytes) (hne : v ≠ []) (hid : ∀ d, HP.IdnaAt idna d)
    (hclean : HS.bracketClean true false (stripTN (v.takeWhile (· != 0x23))) = true)
    (hL : 19 ≤ L)
    (hfit : ∀ h, hostParse idna ((stripTN v).takeWhile (fun b => !Spec.Pattern.isHostTerminator b)) false = some h →
      (layout (ofUrl { uDummy with host := some h })).buf.length ≤ L) :
    (match dummyParse L dummyText dummyUrl with
     | none => none
     | some url0 =>
       let (url, ok) := setHostA true idna L true false 443 url0 v
       if !ok then none else some (getHostname url)) = Spec.Pattern.canonHostname idna v := by
  rw [dummyParse_some L dummyText dummyUrl (Nat.le_trans (by decide) hL) hL]
  simp only
  unfold Spec.Pattern.canonHostname
  have he : v.isEmpty = false := FS.isEmpty_false_of_ne hne
  simp only [he, Bool.false_eq_true, ↓reduceIte]
  have hupto : (stripTN (v.takeWhile (· != 0x23))).takeWhile (fun b => !AdaVerif.Model.UrlRec.isHardDelim true b) =
      (stripTN v).takeWhile (fun b => !Spec.Pattern.isHostTerminator b) := by
    rw [HS.strip_cut, takeWhile_takeWhile']
    congr 1
    funext b
    exact not_hostTerminator_eq b
  unfold setHostA
  rw [dummyUrl_layout]
  have hopq : (layout (ofUrl uDummy)).opq = false := rfl
  simp only [hopq, Bool.false_eq_true, ↓reduceIte, Bool.not_false]
  rw [HS.split_agree true _ hclean, hupto]
  generalize hN : stripTN (v.takeWhile (· != 0x23)) = N at hupto
  generalize hB : (stripTN v).takeWhile (fun b => !Spec.Pattern.isHostTerminator b) = buffer at hupto hfit
  by_cases hlt : hostEnd buffer < buffer.length
  · simp only [hlt, ↓reduceIte]
    by_cases hem : (N.take (hostEnd buffer)).isEmpty = true
    · simp only [hem, ↓reduceIte, Bool.not_false]
    · simp only [hem, Bool.false_eq_true, ↓reduceIte, Bool.not_false]
  · simp only [hlt, ↓reduceIte]
    have htk : N.take buffer.length = buffer := by rw [← hupto]; exact take_length_takeWhile _ N
    rw [htk]
    by_cases hem : buffer.isEmpty = true
    · simp [hem]
    · have hbne : buffer ≠ [] := by simpa using hem
      have hem' : buffer.isEmpty = false := by simpa using hem
      simp only [hem', Bool.false_and, Bool.false_eq_true, ↓reduceIte]
      have hsp : uDummy.isSpecial = true := by decide
      have hpa := parseHostAgg_eq idna uDummy (credOk_of_recInv uDummy uDummy_inv) buffer hbne hid
      rw [hsp] at hpa
      rw [hpa]
      simp only [Bool.not_true]
      cases hh : hostParse idna buffer false with
      | none => simp
      | some h =>
        simp only [Option.map_some]
        rw [host_written uDummy (credOk_of_recInv uDummy uDummy_inv) h]
        have hf := hfit h hh
        have hng : ¬ (layout (ofUrl { uDummy with host := some h })).buf.length > L := by omega
        simp only [hng, ↓reduceIte, Bool.not_true, Bool.false_eq_true]
        congr 1
        rw [getHostname_nocred _ rfl rfl]
        · simp [ofUrl]
        · have := PA.host_no_at idna buffer h hh
          simpa [ofUrl] using this

theorem escape_pattern_bits : ∀ b : UInt8, (tget Gen.escapePatternTable b.toNat != 0) = Spec.Pattern.isPatternSyntax b :=
  forall_tget (T := Gen.escapePatternTable) (Q := fun b v => (v != 0) = Spec.Pattern.isPatternSyntax b)
    (by decide +kernel) (by decide +kernel)
theorem escape_regexp_bits : ∀ b : UInt8, (tget Gen.escapeRegexpTable b.toNat != 0) = Spec.Pattern.isRegexpSyntax b :=
  forall_tget (T := Gen.escapeRegexpTable) (Q := fun b v => (v != 0) = Spec.Pattern.isRegexpSyntax b)
    (by decide +kernel) (by decide +kernel)

theorem escapePattern_eq (v : Bytes) : PatternCanon.escapePatternString v = Spec.Pattern.escapePatternString v := by
  unfold PatternCanon.escapePatternString Spec.Pattern.escapePatternString
  split
  · rename_i h
    have : v = [] := by simpa using h
    subst this; rfl
  · congr 1; funext b; rw [escape_pattern_bits]

theorem escapeRegexp_eq (v : Bytes) : PatternCanon.escapeRegexpString v = Spec.Pattern.escapeRegexpString v := by
  unfold PatternCanon.escapeRegexpString Spec.Pattern.escapeRegexpString
  congr 1; funext b; rw [escape_regexp_bits]

theorem processBase_eq (v : Bytes) (pat : Bool) :
    PatternCanon.processBaseUrlString v pat = Spec.Pattern.processBaseUrlString v pat := by
  unfold PatternCanon.processBaseUrlString Spec.Pattern.processBaseUrlString
  cases pat
  · rfl
  · simp only [Bool.not_true, Bool.false_eq_true, ↓reduceIte]; exact escapePattern_eq v

theorem beq_pair (a b c d : UInt8) : (([a, b] : Bytes) == [c, d]) = (a == c && b == d) := by
  by_cases h1 : a = c <;> by_cases h2 : b = d <;> simp [h1, h2]

theorem isIpv6Address_eq (v : Bytes) : PatternCanon.isIpv6Address v = Spec.Pattern.isIpv6Address v := by
  unfold PatternCanon.isIpv6Address Spec.Pattern.isIpv6Address
  match v with
  | [] => rfl
  | [a] => rfl
  | a :: b :: r =>
    simp only [List.length_cons, List.head?_cons, List.take_succ_cons, List.take_zero, Option.some_beq_some, beq_pair]
    cases (a == 0x5B) <;> cases (a == 0x7B && b == 0x5B) <;> simp

theorem isAbsolutePathname_eq (v : Bytes) (url : Bool) :
    PatternCanon.isAbsolutePathname v url = Spec.Pattern.isAbsolutePathname v url := by
  unfold PatternCanon.isAbsolutePathname Spec.Pattern.isAbsolutePathname
  match v with
  | [] => rfl
  | [a] =>
    simp only [List.isEmpty_cons, List.head?_cons, Option.some_beq_some, List.length_cons]
    cases (a == 0x2F) <;> cases url <;> simp
  | a :: b :: r =>
    simp [Option.some_beq_some, show ¬ r.length + 1 + 1 < 2 by omega]

open AdaVerif.Model.Agg AdaVerif.Lemmas.AggL in
theorem getUsername_layout (l : L) (h : NoAuthNoCred l) : getUsername (layout l) = l.user := by
  unfold getUsername
  cases ha : l.auth with
  | false =>
    have hu := (h ha).1
    have : hasNonEmptyUsername (layout l) = false := decide_eq_false (by layout_arith [ha, hu, authS_false])
    rw [this, hu]; rfl
  | true =>
    rw [hasNonEmptyUsername_layout l ha]
    cases hu : l.user with
    | nil => rfl
    | cons c r =>
      have c1 := cut_auth l
      rw [ha] at c1
      simp only [List.isEmpty_cons, Bool.not_false, ↓reduceIte]
      rw [← hu]
      exact c1.slice (M := l.user) (j := (layout l).ue) (by layout_arith [ha, authS_true])

open AdaVerif.Model.Agg AdaVerif.Lemmas.AggL in
theorem getPassword_layout (l : L) : getPassword (layout l) = l.pass := by
  unfold getPassword
  rw [hasNonEmptyPassword_layout]
  cases hp : l.pass with
  | nil => rfl
  | cons c r =>
    have hne := List.cons_ne_nil c r
    have c1 := cut_ue l
    rw [hp, passS_head hne] at c1
    exact (c1.next (M := [0x3A]) rfl).slice (by layout_arith [hp, passS_head hne])

open AdaVerif.Model.Agg AdaVerif.Lemmas.AggL in
theorem getPort_layout (l : L) (hd : l.dashdot = false) : getPort (layout l) = match l.port with | some (_, d) => d | none => [] := by
  unfold getPort
  rw [layout_port]
  cases hp : l.port with
  | none => rfl
  | some pd =>
    have c1 := cut_he l
    rw [hp, hd] at c1
    exact (c1.next (M := [0x3A]) rfl).slice (by layout_arith [hp, hd, portS, ddS_false])
open AdaVerif.Model.Agg AdaVerif.Lemmas.AggL in
theorem getHostname_layout (l : L) (hh : l.user = [] → l.pass = [] → l.host.headD 0 ≠ 0x40) : getHostname (layout l) = l.host :=
  PA.getHostname_layout l hh

open AdaVerif.Model.Agg AdaVerif.Lemmas.AggL in
/-- the component inputs `match()` / `test()` read off a parsed URL are the fields that were laid out -/
theorem urlInputs_layout (l : L) (hna : NoAuthNoCred l) (hpd : l.port.isSome = true → l.dashdot = false)
    (hh : l.user = [] → l.pass = [] → l.host.headD 0 ≠ 0x40) :
    urlInputs (layout l) =
      [l.scheme.dropLast, l.user, l.pass, l.host, (match l.port with | some (_, d) => d | none => []), l.path,
       l.query.getD [], l.frag.getD []] := by
  unfold urlInputs
  have hport : getPort (layout l) = match l.port with | some (_, d) => d | none => [] := by
    cases hp : l.port with
    | none => simp [getPort, layout, hp]
    | some pd => rw [← hp]; exact getPort_layout l (hpd (by simp [hp]))
  rw [Props.C07.getProtocol_layout, getUsername_layout l hna, getPassword_layout, getHostname_layout l hh, hport,
    Props.C07.getPathname_layout, Props.C07.getSearch_layout, Props.C07.getHash_layout]
  have hss : (layout l).ss.isSome = l.query.isSome := by simp [layout]; cases l.query <;> simp
  have hhh : (layout l).hh.isSome = l.frag.isSome := by simp [layout]; cases l.frag <;> simp
  simp only [hss, hhh]
  rcases l.query with _ | _ | ⟨c, q⟩ <;> rcases l.frag with _ | _ | ⟨d, f⟩ <;> simp

theorem canonPort_fake (v : Bytes) : Spec.Pattern.canonPort v (some [0x66, 0x61, 0x6B, 0x65]) = Spec.Pattern.canonPort v none := by
  unfold Spec.Pattern.canonPort
  have : (some ([0x66, 0x61, 0x6B, 0x65] : Bytes)).bind defaultPort = none := by decide
  simp only [this, Option.bind_none]

theorem processPort_eq (port protocol : Bytes) (pat : Bool) (hp : protocol.getLast? ≠ some 0x3A) :
    processPort port protocol pat = Spec.Pattern.processPortForInit port protocol pat := by
  unfold processPort Spec.Pattern.processPortForInit
  cases pat with
  | true => rfl
  | false =>
    simp only [Bool.false_eq_true, ↓reduceIte]
    rw [port_with_protocol_eq]
    unfold portProtocol
    by_cases he : protocol.isEmpty = true
    · simp only [he, ↓reduceIte]; exact canonPort_fake port
    · have hb : (protocol.getLast? == some 0x3A) = false := by simpa using hp
      simp only [he, Bool.false_eq_true, ↓reduceIte, hb]

theorem processSimple_eq (value : Bytes) (pat : Bool) :
    processUsername value pat = Spec.Pattern.processUsernameForInit value pat ∧
    processPassword value pat = Spec.Pattern.processPasswordForInit value pat ∧
    processSearch value pat = Spec.Pattern.processSearchForInit value pat ∧
    processHash value pat = Spec.Pattern.processHashForInit value pat := by
  unfold processUsername processPassword processSearch processHash Spec.Pattern.processUsernameForInit
    Spec.Pattern.processPasswordForInit Spec.Pattern.processSearchForInit Spec.Pattern.processHashForInit
  cases pat with
  | true => exact ⟨rfl, rfl, rfl, rfl⟩
  | false =>
    simp only [Bool.false_eq_true, ↓reduceIte]
    exact ⟨username_eq _, password_eq _, search_eq _, hash_eq _⟩

end AdaVerif.Lemmas.PC
