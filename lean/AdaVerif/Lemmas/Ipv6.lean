import AdaVerif.Spec.Host
import AdaVerif.Lemmas.ListFacts
/-
IPv6: the Standard's serializer followed by the Standard's parser is the identity on every address
(eight 16-bit pieces), whatever the position and length of the compressed zero run; and, at the end of the file, the
parser accepts nothing but hex digits, ':' and '.' (`BR.ipv6Parse_bytes`).
-/
namespace AdaVerif.Lemmas.V6
open AdaVerif AdaVerif.Spec

theorem hexLower_ok : ∀ d : Fin 16, isAsciiHexDigit (hexLower d.val) = true ∧ hexVal (hexLower d.val) = d.val ∧
    hexLower d.val ≠ 0x3A ∧ hexLower d.val ≠ 0x2E := by decide

theorem hex_digit (d : Nat) (h : d < 16) : isAsciiHexDigit (hexLower d) = true := (hexLower_ok ⟨d, h⟩).1
theorem hex_val (d : Nat) (h : d < 16) : hexVal (hexLower d) = d := (hexLower_ok ⟨d, h⟩).2.1
theorem hex_ne_colon (d : Nat) (h : d < 16) : hexLower d ≠ 0x3A := (hexLower_ok ⟨d, h⟩).2.2.1

/-- the digits of a 16-bit piece, most significant first, without leading zeros -/
def hex4 (x : Nat) : Bytes :=
  if x < 16 then [hexLower x]
  else if x < 256 then [hexLower (x / 16), hexLower (x % 16)]
  else if x < 4096 then [hexLower (x / 256), hexLower (x / 16 % 16), hexLower (x % 16)]
  else [hexLower (x / 4096), hexLower (x / 256 % 16), hexLower (x / 16 % 16), hexLower (x % 16)]

theorem natToHexLower_lt (n : Nat) (h : n < 16) : natToHexLower n = [hexLower n] := by
  rw [natToHexLower]; simp [h]
theorem natToHexLower_step (n : Nat) (h : ¬ n < 16) : natToHexLower n = natToHexLower (n / 16) ++ [hexLower (n % 16)] := by
  rw [natToHexLower]; simp [h]

theorem natToHexLower_eq (x : Nat) (h : x < 65536) : natToHexLower x = hex4 x := by
  unfold hex4
  have d2 : x / 16 / 16 = x / 256 := Nat.div_div_eq_div_mul x 16 16
  have d3 : x / 256 / 16 = x / 4096 := Nat.div_div_eq_div_mul x 256 16
  by_cases h1 : x < 16
  · simp only [h1, ↓reduceIte, natToHexLower_lt x h1]
  · have g1 : ¬ x / 16 < 16 ↔ ¬ x < 256 := by rw [Nat.div_lt_iff_lt_mul (by decide)]
    rw [natToHexLower_step x h1]
    by_cases h2 : x < 256
    · simp only [h1, h2, ↓reduceIte, natToHexLower_lt (x / 16) (Nat.div_lt_of_lt_mul h2), List.cons_append, List.nil_append]
    · have g2 : ¬ x / 256 < 16 ↔ ¬ x < 4096 := by rw [Nat.div_lt_iff_lt_mul (by decide)]
      rw [natToHexLower_step (x / 16) (g1.mpr h2), d2]
      by_cases h3 : x < 4096
      · simp only [h1, h2, h3, ↓reduceIte, natToHexLower_lt (x / 256) (Nat.div_lt_of_lt_mul h3), List.cons_append, List.nil_append]
      · rw [natToHexLower_step (x / 256) (g2.mpr h3), d3, natToHexLower_lt (x / 4096) (Nat.div_lt_of_lt_mul h)]
        simp only [h1, h2, h3, ↓reduceIte, List.cons_append, List.nil_append]

def NotHexHead (rest : Bytes) : Prop := ∀ b, rest.head? = some b → isAsciiHexDigit b = false

theorem readHex_stop (m v len : Nat) (rest : Bytes) (hr : NotHexHead rest) : readHex m rest v len = (v, len, rest) := by
  cases m with
  | zero => cases rest <;> simp [readHex]
  | succ m =>
    cases rest with
    | nil => simp [readHex]
    | cons b r => simp [readHex, hr b rfl]

theorem readHex_step (m v len : Nat) (d : Nat) (hd : d < 16) (rest : Bytes) :
    readHex (m + 1) (hexLower d :: rest) v len = readHex m rest (v * 16 + d) (len + 1) := by
  simp [readHex, hex_digit d hd, hex_val d hd]

theorem readHex_zero (v len : Nat) (s : Bytes) : readHex 0 s v len = (v, len, s) := by
  cases s <;> simp [readHex]

theorem readHex_hex4 (x : Nat) (hx : x < 65536) (rest : Bytes) (hr : NotHexHead rest) :
    readHex 4 (hex4 x ++ rest) = (x, (hex4 x).length, rest) := by
  have m (y : Nat) : y % 16 < 16 := Nat.mod_lt _ (by decide)
  have e1 : x / 16 * 16 + x % 16 = x := Nat.div_add_mod' x 16
  have e2 : x / 256 * 16 + x / 16 % 16 = x / 16 := by
    rw [← Nat.div_div_eq_div_mul x 16 16]; exact Nat.div_add_mod' (x / 16) 16
  have e3 : x / 4096 * 16 + x / 256 % 16 = x / 256 := by
    rw [← Nat.div_div_eq_div_mul x 256 16]; exact Nat.div_add_mod' (x / 256) 16
  unfold hex4
  by_cases h1 : x < 16
  · simp only [h1, ↓reduceIte, List.cons_append, List.nil_append, List.length_cons, List.length_nil]
    rw [readHex_step 3 0 0 x h1, readHex_stop _ _ _ _ hr, Nat.zero_mul, Nat.zero_add]
  · by_cases h2 : x < 256
    · simp only [h1, h2, ↓reduceIte, List.cons_append, List.nil_append, List.length_cons, List.length_nil]
      rw [readHex_step 3 0 0 _ (Nat.div_lt_of_lt_mul h2), readHex_step 2 _ _ _ (m x), readHex_stop _ _ _ _ hr, Nat.zero_mul,
        Nat.zero_add, e1]
    · by_cases h3 : x < 4096
      · simp only [h1, h2, h3, ↓reduceIte, List.cons_append, List.nil_append, List.length_cons, List.length_nil]
        rw [readHex_step 3 0 0 _ (Nat.div_lt_of_lt_mul h3), readHex_step 2 _ _ _ (m _), readHex_step 1 _ _ _ (m x),
          readHex_stop _ _ _ _ hr, Nat.zero_mul, Nat.zero_add, e2, e1]
      · simp only [h1, h2, h3, ↓reduceIte, List.cons_append, List.nil_append, List.length_cons, List.length_nil]
        rw [readHex_step 3 0 0 _ (Nat.div_lt_of_lt_mul hx), readHex_step 2 _ _ _ (m _), readHex_step 1 _ _ _ (m _),
          readHex_step 0 _ _ _ (m x), readHex_zero, Nat.zero_mul, Nat.zero_add, e3, e2, e1]

theorem hex4_length_pos (x : Nat) : 0 < (hex4 x).length := by
  unfold hex4
  split
  · simp
  · split
    · simp
    · split <;> simp
theorem hex4_head (x : Nat) (hx : x < 65536) : ∃ d r, d < 16 ∧ hex4 x = hexLower d :: r := by
  unfold hex4
  by_cases h1 : x < 16
  · exact ⟨x, [], h1, by simp [h1]⟩
  · by_cases h2 : x < 256
    · exact ⟨x / 16, [hexLower (x % 16)], by omega, by simp [h1, h2]⟩
    · by_cases h3 : x < 4096
      · exact ⟨x / 256, [hexLower (x / 16 % 16), hexLower (x % 16)], by omega, by simp [h1, h2, h3]⟩
      · exact ⟨x / 4096, [hexLower (x / 256 % 16), hexLower (x / 16 % 16), hexLower (x % 16)], by omega, by simp [h1, h2, h3]⟩

local notation "go" => ipv6Serialize.go

theorem go_nil (c : Option Nat) (i : Nat) (ig : Bool) (out : Bytes) : go c [] i ig out = out := by
  simp [ipv6Serialize.go]

theorem go_acc (c : Option Nat) (l : List Nat) (i : Nat) (ig : Bool) (out : Bytes) : go c l i ig out = out ++ go c l i ig [] := by
  induction l generalizing i ig out with
  | nil => simp [go_nil]
  | cons x rest ih =>
    simp only [ipv6Serialize.go]
    by_cases h1 : (ig && x == 0) = true
    · simp only [h1, ↓reduceIte]; exact ih _ _ _
    · simp only [h1, Bool.false_eq_true, ↓reduceIte]
      by_cases h2 : (c == some i) = true
      · simp only [h2, ↓reduceIte]
        rw [ih _ _ (out ++ _), ih _ _ ([] ++ _)]; simp [List.append_assoc]
      · simp only [h2, Bool.false_eq_true, ↓reduceIte]
        rw [ih _ _ (if (i != 7) = true then out ++ natToHexLower x ++ [0x3A] else out ++ natToHexLower x),
          ih _ _ (if (i != 7) = true then [] ++ natToHexLower x ++ [0x3A] else [] ++ natToHexLower x)]
        split <;> simp [List.append_assoc]

theorem go_piece (c : Option Nat) (x : Nat) (rest : List Nat) (i : Nat) (hx : x < 65536) (hc : c ≠ some i) (hi : i ≠ 7) :
    go c (x :: rest) i false [] = hex4 x ++ 0x3A :: go c rest (i + 1) false [] := by
  have h2 : (c == some i) = false := by simpa using hc
  have h3 : (i != 7) = true := by simpa using hi
  simp only [ipv6Serialize.go, Bool.false_and, Bool.false_eq_true, ↓reduceIte, h2, h3]
  rw [go_acc]; simp [natToHexLower_eq x hx, List.append_assoc]

theorem go_last (c : Option Nat) (x : Nat) (hx : x < 65536) (hc : c ≠ some 7) : go c [x] 7 false [] = hex4 x := by
  have h2 : (c == some 7) = false := by simpa using hc
  simp [ipv6Serialize.go, h2, natToHexLower_eq x hx]

theorem go_skip (c : Option Nat) (rest : List Nat) (i : Nat) : go c (0 :: rest) i true [] = go c rest (i + 1) true [] := by
  simp [ipv6Serialize.go]

theorem go_marker (x : Nat) (rest : List Nat) (i : Nat) :
    go (some i) (x :: rest) i false [] = (if i == 0 then [0x3A, 0x3A] else [0x3A]) ++ go (some i) rest (i + 1) true [] := by
  simp only [ipv6Serialize.go, Bool.false_and, Bool.false_eq_true, ↓reduceIte, beq_self_eq_true]
  rw [go_acc]; simp

theorem go_resume (c : Option Nat) (x : Nat) (rest : List Nat) (i : Nat) (hx0 : x ≠ 0) :
    go c (x :: rest) i true [] = go c (x :: rest) i false [] := by
  have : (x == 0) = false := by simpa using hx0
  simp [ipv6Serialize.go, this]

theorem loop_end (f : Nat) (pieces : List Nat) (comp : Option Nat) : ipv6Loop (f + 1) [] pieces comp = some (pieces, comp) := by
  simp [ipv6Loop]

theorem notHex_colon (t : Bytes) : NotHexHead (0x3A :: t) := by
  intro b hb; simp at hb; subst hb; decide

theorem notHex_nil : NotHexHead [] := by intro b hb; simp at hb

theorem loop_piece (f x : Nat) (hx : x < 65536) (t : Bytes) (ht : t ≠ []) (pieces : List Nat) (hp : pieces.length < 8)
    (comp : Option Nat) :
    ipv6Loop (f + 1) (hex4 x ++ 0x3A :: t) pieces comp = ipv6Loop f t (pieces ++ [x]) comp := by
  obtain ⟨d, r, hd, hr⟩ := hex4_head x hx
  have hrd := readHex_hex4 x hx (0x3A :: t) (notHex_colon t)
  have hne : (pieces.length == 8) = false := by simp; omega
  have hcolon : (hexLower d == 0x3A) = false := by simpa using hex_ne_colon d hd
  have hlen := hex4_length_pos x
  have hte : t.isEmpty = false := by simpa using ht
  have hl0 : ((hex4 x).length == 0) = false := beq_false_of_ne (Nat.ne_of_gt hlen)
  rw [hr] at hrd ⊢
  simp only [List.cons_append, ipv6Loop, hne, Bool.false_eq_true, ↓reduceIte, hcolon]
  rw [← List.cons_append, hrd]
  simp [hte, hl0, ← hr]

theorem loop_last (f x : Nat) (hx : x < 65536) (pieces : List Nat) (hp : pieces.length < 8) (comp : Option Nat) :
    ipv6Loop (f + 1) (hex4 x) pieces comp = some (pieces ++ [x], comp) := by
  obtain ⟨d, r, hd, hr⟩ := hex4_head x hx
  have hrd := readHex_hex4 x hx [] notHex_nil
  have hne : (pieces.length == 8) = false := by simp; omega
  have hcolon : (hexLower d == 0x3A) = false := by simpa using hex_ne_colon d hd
  have hlen := hex4_length_pos x
  have hl0 : ((hex4 x).length == 0) = false := beq_false_of_ne (Nat.ne_of_gt hlen)
  simp only [List.append_nil] at hrd
  rw [hr] at hrd ⊢
  simp only [ipv6Loop, hne, Bool.false_eq_true, ↓reduceIte, hcolon]
  rw [hrd]
  simp [hl0, ← hr]

theorem loop_compress (f : Nat) (t : Bytes) (pieces : List Nat) (hp : pieces.length < 8) :
    ipv6Loop (f + 1) (0x3A :: t) pieces none = ipv6Loop f t pieces (some pieces.length) := by
  have hne : (pieces.length == 8) = false := by simp; omega
  simp [ipv6Loop, hne]

theorem go_ne_nil (c : Option Nat) (x : Nat) (rest : List Nat) (i : Nat) (hx : x < 65536) (hlen : i + (x :: rest).length = 8) :
    go c (x :: rest) i false [] ≠ [] := by
  by_cases hc : c = some i
  · subst hc; rw [go_marker]; split <;> simp
  · cases rest with
    | nil =>
      have : i = 7 := by simp at hlen; omega
      subst this
      rw [go_last c x hx hc]
      have := hex4_length_pos x
      intro h; rw [h] at this; simp at this
    | cons y r =>
      have : i ≠ 7 := by simp at hlen; omega
      rw [go_piece c x (y :: r) i hx hc this]
      have := hex4_length_pos x
      intro h
      have h' := congrArg List.length h
      simp at h'

/-- plain pieces (no marker ahead): the loop collects them all -/
theorem plain_run (c : Option Nat) : ∀ (l : List Nat) (i : Nat) (acc : List Nat) (comp : Option Nat) (f : Nat),
    l ≠ [] → i + l.length = 8 → (∀ x ∈ l, x < 65536) → (∀ j, c = some j → j < i) → acc.length + l.length ≤ 8 →
    (go c l i false []).length ≤ f →
    ipv6Loop f (go c l i false []) acc comp = some (acc ++ l, comp) := by
  intro l
  induction l with
  | nil => intro i acc comp f h; exact absurd rfl h
  | cons x rest ih =>
    intro i acc comp f _ hlen hb hc hacc hf
    have hx : x < 65536 := hb x (by simp)
    have hci : c ≠ some i := fun h => by have := hc i h; omega
    cases rest with
    | nil =>
      have hi : i = 7 := by simp at hlen; omega
      subst hi
      rw [go_last c x hx hci] at hf ⊢
      have hpos := hex4_length_pos x
      obtain ⟨f', rfl⟩ : ∃ f', f = f' + 1 := ⟨f - 1, by omega⟩
      exact loop_last f' x hx acc (by simp at hacc; omega) comp
    | cons y r =>
      have hi : i ≠ 7 := by simp at hlen; omega
      rw [go_piece c x (y :: r) i hx hci hi] at hf ⊢
      have hpos := hex4_length_pos x
      obtain ⟨f', rfl⟩ : ∃ f', f = f' + 1 := ⟨f - 1, by simp at hf; omega⟩
      rw [loop_piece f' x hx _ (go_ne_nil c y r (i + 1) (hb y (by simp)) (by simp at hlen ⊢; omega)) acc
        (by simp at hacc; omega) comp]
      have := ih (i + 1) (acc ++ [x]) comp f' (by simp) (by simp at hlen ⊢; omega) (fun z hz => hb z (by simp [hz]))
        (fun j hj => by have := hc j hj; omega) (by simp at hacc ⊢; omega) (by simp at hf; omega)
      rw [this]; simp

/-- after the marker: zeros are skipped, then the rest is plain -/
theorem skip_run (c : Option Nat) : ∀ (l : List Nat) (i : Nat) (acc : List Nat) (comp : Option Nat) (f : Nat),
    i + l.length = 8 → (∀ x ∈ l, x < 65536) → (∀ j, c = some j → j < i) → acc.length + l.length ≤ 8 →
    (go c l i true []).length + 1 ≤ f →
    ipv6Loop f (go c l i true []) acc comp = some (acc ++ l.dropWhile (· == 0), comp) := by
  intro l
  induction l with
  | nil =>
    intro i acc comp f _ _ _ _ hf
    obtain ⟨f', rfl⟩ : ∃ f', f = f' + 1 := ⟨f - 1, by omega⟩
    simp [go_nil, loop_end]
  | cons x rest ih =>
    intro i acc comp f hlen hb hc hacc hf
    by_cases hx0 : x = 0
    · subst hx0
      rw [go_skip] at hf ⊢
      have := ih (i + 1) acc comp f (by simp at hlen ⊢; omega) (fun z hz => hb z (by simp [hz]))
        (fun j hj => by have := hc j hj; omega) (by simp at hacc ⊢; omega) hf
      rw [this]; simp
    · rw [go_resume c x rest i hx0] at hf ⊢
      have hxb : (x == 0) = false := by simpa using hx0
      have hdw : (x :: rest).dropWhile (· == 0) = x :: rest := by simp [List.dropWhile, hxb]
      rw [hdw]
      exact plain_run c (x :: rest) i acc comp f (by simp) hlen hb hc hacc (by omega)

/-- before the marker (which sits at index `cs > 0`): pieces are collected, the second ':' records the
    compression point, the zeros after it are skipped -/
theorem before_run (cs : Nat) : ∀ (l : List Nat) (i : Nat) (acc : List Nat) (f : Nat),
    i + l.length = 8 → (∀ x ∈ l, x < 65536) → i ≤ cs → cs < 8 → 0 < cs → acc.length = i →
    (go (some cs) l i false []).length + 1 ≤ f →
    ipv6Loop f (go (some cs) l i false []) acc none =
      some (acc ++ l.take (cs - i) ++ (l.drop (cs - i + 1)).dropWhile (· == 0), some cs) := by
  intro l
  induction l with
  | nil => intro i acc f hlen _ hi hcs; simp at hlen; omega
  | cons x rest ih =>
    intro i acc f hlen hb hi hcs hi0 hacc hf
    have hx : x < 65536 := hb x (by simp)
    obtain ⟨f', rfl⟩ : ∃ f', f = f' + 1 := ⟨f - 1, by omega⟩
    by_cases he : i = cs
    · subst he
      rw [go_marker] at hf ⊢
      have hne : (i == 0) = false := by simp; omega
      simp only [hne, Bool.false_eq_true, ↓reduceIte, List.cons_append, List.nil_append] at hf ⊢
      rw [loop_compress f' _ acc (by omega)]
      have := skip_run (some i) rest (i + 1) acc (some acc.length) f' (by simp at hlen ⊢; omega)
        (fun z hz => hb z (by simp [hz])) (fun j hj => by injection hj with hj; omega) (by simp at hlen; omega)
        (by simp at hf; omega)
      rw [this, hacc]; simp
    · have hlt : i < cs := by omega
      have hci : some cs ≠ some i := by intro h; injection h with h; omega
      have hi7 : i ≠ 7 := by omega
      rw [go_piece (some cs) x rest i hx hci hi7] at hf ⊢
      cases rest with
      | nil => simp at hlen; omega
      | cons y r =>
        rw [loop_piece f' x hx _ (go_ne_nil (some cs) y r (i + 1) (hb y (by simp)) (by simp at hlen ⊢; omega)) acc
          (by omega) none]
        have := ih (i + 1) (acc ++ [x]) f' (by simp at hlen ⊢; omega) (fun z hz => hb z (by simp [hz])) (by omega) hcs
          hi0 (by simp [hacc]) (by simp at hf; omega)
        rw [this]
        have e1 : cs - i = (cs - (i + 1)) + 1 := by omega
        rw [e1]; simp [List.append_assoc]

/-- the last step of the parser: expand the compression -/
def finish : Option (List Nat × Option Nat) → Option (List Nat)
  | none => none
  | some (pieces, some k) =>
    if pieces.length > 7 then none else some (pieces.take k ++ List.replicate (8 - pieces.length) 0 ++ pieces.drop k)
  | some (pieces, none) => if pieces.length == 8 then some pieces else none

/-- the last step puts back the zeros that `::` stood for: the pieces before the compression point, then the pieces
    behind it from the first non-zero one on, are the address again -/
theorem finish_compress (a : List Nat) (ha : a.length = 8) (cs : Nat) (hz : a[cs]? = some 0) :
    finish (some (a.take cs ++ (a.drop (cs + 1)).dropWhile (· == 0), some cs)) = some a := by
  obtain ⟨hlt, hget⟩ := List.getElem?_eq_some_iff.mp hz
  have hsplit : a = a.take cs ++ 0 :: a.drop (cs + 1) := by
    conv => lhs; rw [← List.take_append_drop cs a, List.drop_eq_getElem_cons hlt, hget]
  generalize hP : a.take cs = P at hsplit ⊢
  generalize hD : a.drop (cs + 1) = D at hsplit ⊢
  have hPl : P.length = cs := by rw [← hP]; simp; omega
  have hDl : D.length = 7 - cs := by rw [← hD]; simp; omega
  have hle : (D.dropWhile (· == 0)).length ≤ D.length := (List.dropWhile_sublist _).length_le
  have hz2 := zeros_prefix D
  generalize D.dropWhile (· == 0) = Q at hle hz2 ⊢
  have hnot : ¬ ((P ++ Q).length > 7) := by simp [hPl]; omega
  have e : 8 - (P ++ Q).length = (D.length - Q.length) + 1 := by simp [hPl]; omega
  simp only [finish, hnot, ↓reduceIte, e, List.replicate_succ]
  rw [← hPl, List.take_left, List.drop_left, hsplit, hz2]
  simp

theorem parse_nocolon (b : UInt8) (t : Bytes) (hb : b ≠ 0x3A) :
    ipv6Parse (b :: t) = finish (ipv6Loop ((b :: t).length + 1) (b :: t) [] none) := by
  unfold ipv6Parse
  split
  · rename_i heq; injection heq with h1 _; exact absurd h1 hb
  · rename_i heq; injection heq with h1 _; exact absurd h1 hb
  · simp only
    cases h : ipv6Loop ((b :: t).length + 1) (b :: t) [] none with
    | none => simp [finish]
    | some r => obtain ⟨pieces, comp⟩ := r; cases comp <;> simp [finish]

theorem parse_coloncolon (t : Bytes) :
    ipv6Parse (0x3A :: 0x3A :: t) = finish (ipv6Loop ((0x3A :: 0x3A :: t : Bytes).length + 1) t [] (some 0)) := by
  unfold ipv6Parse
  split
  · rename_i rest heq
    injection heq with _ h2; injection h2 with _ h3; subst h3
    simp only
    cases h : ipv6Loop ((0x3A :: 0x3A :: t : Bytes).length + 1) t [] (some 0) with
    | none => simp [finish]
    | some r => obtain ⟨pieces, comp⟩ := r; cases comp <;> simp [finish]
  · rename_i tl hno heq
    injection heq with _ h2; subst h2
    exact absurd rfl (hno t)
  · rename_i hno _; exact absurd rfl (hno t)

/-- for any admissible choice of the compression point - an index holding a zero piece, or none -
    parsing the serialisation gives the address back -/
theorem parse_go (a : List Nat) (ha : a.length = 8) (hb : ∀ x ∈ a, x < 65536) (c : Option Nat)
    (hc : ∀ cs, c = some cs → a[cs]? = some 0) : ipv6Parse (go c a 0 false []) = some a := by
  obtain ⟨x, rest, rfl⟩ : ∃ x rest, a = x :: rest := List.exists_cons_of_length_pos (by omega)
  have hx : x < 65536 := hb x (by simp)
  have hrl : rest.length = 7 := by simpa using ha
  cases c with
  | none =>
    obtain ⟨d, r, hd, hr⟩ := hex4_head x hx
    have hs : go none (x :: rest) 0 false [] = hexLower d :: (r ++ 0x3A :: go none rest 1 false []) := by
      rw [go_piece none x rest 0 hx (by simp) (by decide), hr]; simp
    rw [hs, parse_nocolon _ _ (hex_ne_colon d hd), ← hs]
    rw [plain_run none (x :: rest) 0 [] none _ (by simp) (by simpa using ha) hb (by simp) (by simp [ha]) (by omega)]
    simp [finish, ha]
  | some cs =>
    have hz := hc cs rfl
    have hcs : cs < 8 := by
      have := (List.getElem?_eq_some_iff.mp hz).1; omega
    by_cases h0 : cs = 0
    · subst h0
      have hx0 : x = 0 := by simpa using hz
      subst hx0
      rw [go_marker]
      simp only [beq_self_eq_true, ↓reduceIte, List.cons_append, List.nil_append]
      rw [parse_coloncolon]
      rw [skip_run (some 0) rest 1 [] (some 0) _ (by omega) (fun z hz => hb z (by simp [hz])) (by intro j hj; injection hj with hj; omega)
        (by simp; omega) (by simp)]
      exact finish_compress (0 :: rest) ha 0 hz
    ·
      obtain ⟨d, r, hd, hr⟩ := hex4_head x hx
      have hs : go (some cs) (x :: rest) 0 false [] = hexLower d :: (r ++ 0x3A :: go (some cs) rest 1 false []) := by
        rw [go_piece (some cs) x rest 0 hx (by intro h; injection h with h; exact h0 h) (by decide), hr]; simp
      rw [hs, parse_nocolon _ _ (hex_ne_colon d hd), ← hs]
      rw [before_run cs (x :: rest) 0 [] _ (by simpa using ha) hb (by omega) hcs (by omega) rfl (by omega)]
      exact finish_compress (x :: rest) ha cs hz

theorem longestZeroRun_go_zero (a : List Nat) : ∀ (l : List Nat) (i cs cl bs bl : Nat),
    (∀ j, l[j]? = a[i + j]?) → (cl > 0 → a[cs]? = some 0) → (bl > 0 → a[bs]? = some 0) →
    (longestZeroRun.go l i cs cl bs bl).2 > 0 → a[(longestZeroRun.go l i cs cl bs bl).1]? = some 0 := by
  intro l
  induction l with
  | nil =>
    intro i cs cl bs bl _ h1 h2
    simp only [longestZeroRun.go]
    split
    · intro h; exact h1 (by simpa using h)
    · intro h; exact h2 (by simpa using h)
  | cons x rest ih =>
    intro i cs cl bs bl hl h1 h2
    have hshift : ∀ j, rest[j]? = a[i + 1 + j]? := by
      intro j
      have := hl (j + 1)
      simp only [List.getElem?_cons_succ] at this
      rw [this]; congr 1; omega
    simp only [longestZeroRun.go]
    by_cases hx : (x == 0) = true
    · simp only [hx, ↓reduceIte]
      have hx0 : x = 0 := by simpa using hx
      have hai : a[i]? = some 0 := by
        have := hl 0; simp at this; rw [← this, hx0]
      apply ih (i + 1) _ (cl + 1) bs bl hshift _ h2
      intro _
      by_cases hc : (cl == 0) = true
      · simp only [hc, ↓reduceIte]; exact hai
      · simp only [hc, Bool.false_eq_true, ↓reduceIte]
        exact h1 (by have : cl ≠ 0 := by simpa using hc
                     omega)
    · simp only [hx, Bool.false_eq_true, ↓reduceIte]
      by_cases hc : cl > bl
      · simp only [hc, ↓reduceIte]
        exact ih (i + 1) 0 0 cs cl hshift (by intro h; omega) (fun _ => h1 (by omega))
      · simp only [hc, ↓reduceIte]
        exact ih (i + 1) 0 0 bs bl hshift (by intro h; omega) h2

theorem longestZeroRun_zero (a : List Nat) (h : (longestZeroRun a).2 > 0) : a[(longestZeroRun a).1]? = some 0 := by
  unfold longestZeroRun at h ⊢
  exact longestZeroRun_go_zero a a 0 0 0 0 0 (by intro j; simp) (by intro h; omega) (by intro h; omega) h

theorem ipv6_roundtrip (a : List Nat) (ha : a.length = 8) (hb : ∀ x ∈ a, x < 65536) :
    ipv6Parse (ipv6Serialize a) = some a := by
  unfold ipv6Serialize
  have hz := longestZeroRun_zero a
  cases hr : longestZeroRun a with
  | mk cs cl =>
    rw [hr] at hz
    simp only
    apply parse_go a ha hb
    intro k hk
    by_cases hcl : cl > 1
    · simp only [hcl, ↓reduceIte] at hk
      injection hk with hk; subst hk
      exact hz (by simp; omega)
    · simp [hcl] at hk

end AdaVerif.Lemmas.V6

namespace AdaVerif.Lemmas.BR
open AdaVerif AdaVerif.Spec AdaVerif.Lemmas

def V6Byte (b : UInt8) : Prop := isAsciiHexDigit b = true ∨ b = 0x3A ∨ b = 0x2E

theorem readHex_split : ∀ (m : Nat) (s : Bytes) (v len : Nat), ∃ pre, s = pre ++ (readHex m s v len).2.2 ∧ ∀ b ∈ pre, isAsciiHexDigit b = true := by
  intro m
  induction m with
  | zero => intro s v len; exact ⟨[], by simp [readHex], by intro b hb; cases hb⟩
  | succ m ih =>
    intro s v len
    cases s with
    | nil => exact ⟨[], by simp [readHex], by intro b hb; cases hb⟩
    | cons c rest =>
      by_cases hc : isAsciiHexDigit c = true
      · obtain ⟨pre, h1, h2⟩ := ih rest (v * 16 + hexVal c) (len + 1)
        refine ⟨c :: pre, ?_, ?_⟩
        · simp only [readHex, hc, ↓reduceIte, List.cons_append]; rw [← h1]
        · intro b hb
          simp only [List.mem_cons] at hb
          rcases hb with rfl | hb
          · exact hc
          · exact h2 b hb
      · exact ⟨[], by simp [readHex, hc], by intro b hb; cases hb⟩

theorem digit_hex (b : UInt8) (h : isAsciiDigit b = true) : isAsciiHexDigit b = true := by
  simp [isAsciiHexDigit, h]

theorem piece_go_split : ∀ (fuel v : Nat) (t : Bytes) (r : Nat × Bytes), readIpv4Piece.go fuel v t = some r →
    ∃ pre, t = pre ++ r.2 ∧ ∀ b ∈ pre, isAsciiDigit b = true := by
  intro fuel
  induction fuel with
  | zero => intro v t r h; simp only [readIpv4Piece.go] at h; injection h with h; subst h; exact ⟨[], rfl, by intro b hb; cases hb⟩
  | succ f ih =>
    intro v t r h
    cases t with
    | nil => simp only [readIpv4Piece.go] at h; injection h with h; subst h; exact ⟨[], rfl, by intro b hb; cases hb⟩
    | cons c t' =>
      simp only [readIpv4Piece.go] at h
      split at h
      · rename_i hc
        split at h
        · cases h
        · split at h
          · cases h
          · obtain ⟨pre, h1, h2⟩ := ih _ _ _ h
            refine ⟨c :: pre, by rw [h1]; rfl, ?_⟩
            intro b hb
            simp only [List.mem_cons] at hb
            rcases hb with rfl | hb
            · exact hc
            · exact h2 b hb
      · injection h with h; subst h; exact ⟨[], rfl, by intro b hb; cases hb⟩

theorem piece_split (s : Bytes) (r : Nat × Bytes) (h : readIpv4Piece s = some r) :
    ∃ pre, s = pre ++ r.2 ∧ ∀ b ∈ pre, isAsciiDigit b = true := by
  unfold readIpv4Piece at h
  cases s with
  | nil => cases h
  | cons b rest =>
    simp only at h
    split at h
    · cases h
    · rename_i hb
      obtain ⟨pre, h1, h2⟩ := piece_go_split _ _ _ _ h
      refine ⟨b :: pre, by rw [h1]; rfl, ?_⟩
      intro x hx
      simp only [List.mem_cons] at hx
      rcases hx with rfl | hx
      · simpa using hb
      · exact h2 x hx

theorem embedded_bytes (s : Bytes) (r : Nat × Nat) (h : readEmbeddedIpv4 s = some r) : ∀ b ∈ s, V6Byte b := by
  unfold readEmbeddedIpv4 at h
  have dd : ∀ pre : Bytes, (∀ b ∈ pre, isAsciiDigit b = true) → ∀ b ∈ pre, V6Byte b :=
    fun pre hp b hb => Or.inl (digit_hex b (hp b hb))
  split at h
  · cases h
  · rename_i a s1 h1
    obtain ⟨p1, e1, d1⟩ := piece_split s (a, s1) h1
    split at h
    · rename_i s1'
      split at h
      · cases h
      · rename_i b2 s2 h2
        obtain ⟨p2, e2, d2⟩ := piece_split s1' (b2, s2) h2
        split at h
        · rename_i s2'
          split at h
          · cases h
          · rename_i c3 s3 h3
            obtain ⟨p3, e3, d3⟩ := piece_split s2' (c3, s3) h3
            split at h
            · rename_i s3'
              split at h
              · cases h
              · rename_i d4 s4 h4
                obtain ⟨p4, e4, d4'⟩ := piece_split s3' (d4, s4) h4
                split at h
                · rename_i hs4
                  have hs4' : s4 = [] := by simpa using hs4
                  simp only at e1 e2 e3 e4
                  intro b hb
                  rw [e1, e2, e3, e4, hs4'] at hb
                  simp only [List.mem_append, List.mem_cons, List.not_mem_nil, or_false] at hb
                  rcases hb with hb | rfl | hb | rfl | hb | rfl | hb
                  · exact dd p1 d1 b hb
                  · exact Or.inr (Or.inr rfl)
                  · exact dd p2 d2 b hb
                  · exact Or.inr (Or.inr rfl)
                  · exact dd p3 d3 b hb
                  · exact Or.inr (Or.inr rfl)
                  · exact dd p4 d4' b hb
                · cases h
            · cases h
        · cases h
    · cases h

theorem ipv6Loop_bytes : ∀ (fuel : Nat) (s : Bytes) (pieces : List Nat) (comp : Option Nat) (r : List Nat × Option Nat),
    ipv6Loop fuel s pieces comp = some r → ∀ b ∈ s, V6Byte b := by
  intro fuel
  induction fuel with
  | zero => intro s pieces comp r h; simp [ipv6Loop] at h
  | succ f ih =>
    intro s pieces comp r h
    unfold ipv6Loop at h
    cases s with
    | nil => intro b hb; cases hb
    | cons c rest =>
      simp only at h
      split at h
      · cases h
      · split at h
        · rename_i hc
          have hc' : c = 0x3A := by simpa using hc
          split at h
          · cases h
          · intro b hb
            simp only [List.mem_cons] at hb
            rcases hb with rfl | hb
            · exact Or.inr (Or.inl hc')
            · exact ih _ _ _ _ h b hb
        ·
          obtain ⟨pre, hpre, hhex⟩ := readHex_split 4 (c :: rest) 0 0
          generalize hrh : readHex 4 (c :: rest) = rh at h hpre
          obtain ⟨value, len, after⟩ := rh
          simp only at h hpre
          have hpreb : ∀ b ∈ pre, V6Byte b := fun b hb => Or.inl (hhex b hb)
          split at h
          · -- '.' behind the digits: the embedded IPv4 tail reads the whole rest
            split at h
            · cases h
            · split at h
              · cases h
              · split at h
                · cases h
                · rename_i p1 p2 hemb
                  exact embedded_bytes (c :: rest) (p1, p2) hemb
          · rename_i after'
            split at h
            · cases h
            · split at h
              · cases h
              · intro b hb
                rw [hpre] at hb
                simp only [List.mem_append, List.mem_cons] at hb
                rcases hb with hb | rfl | hb
                · exact hpreb b hb
                · exact Or.inr (Or.inl rfl)
                · exact ih _ _ _ _ h b hb
          · split at h
            · cases h
            · intro b hb
              rw [hpre, List.append_nil] at hb
              exact hpreb b hb
          · cases h

theorem ipv6Parse_bytes (s : Bytes) (p : List Nat) (h : ipv6Parse s = some p) : ∀ b ∈ s, V6Byte b := by
  unfold ipv6Parse at h
  simp only at h
  split at h
  · cases h
  · rename_i t ps comp hstart
    split at h
    · cases h
    · rename_i pieces compress hloop
      have hb := ipv6Loop_bytes _ _ _ _ _ hloop
      split at hstart
      · rename_i rest
        injection hstart with hstart
        injection hstart with e1 _
        subst e1
        intro b hbm
        simp only [List.mem_cons] at hbm
        rcases hbm with rfl | rfl | hbm
        · exact Or.inr (Or.inl rfl)
        · exact Or.inr (Or.inl rfl)
        · exact hb b hbm
      · cases hstart
      · injection hstart with hstart
        injection hstart with e1 _
        subst e1
        exact hb

end AdaVerif.Lemmas.BR
