import AdaVerif.Spec.RecInv
import AdaVerif.Lemmas.ListFacts
import AdaVerif.Lemmas.Ascii
/-
The record invariants `Spec.RecInv` (C19) clause by clause (`InvOk`), the three kinds of edit that keep them
(credentials and port where they are allowed, the components the invariants do not look at, the host), and
from these: every setter of `Spec.Setters` preserves them.
-/
namespace AdaVerif.Lemmas
open AdaVerif AdaVerif.Spec

theorem pathSegments_ne_nil (scheme : Bytes) (segs : List Bytes) (path : List Bytes) (h : segs ≠ []) :
    pathSegments scheme segs path ≠ [] := by
  induction segs generalizing path with
  | nil => exact absurd rfl h
  | cons seg more ih =>
    unfold pathSegments
    by_cases hm : more = []
    · subst hm
      simp only [List.isEmpty_nil, ↓reduceIte, pathSegments]
      split
      · simp
      · split <;> simp
    · exact ih _ hm

theorem splitPath_ne_nil (sp : Bool) (t : Bytes) : splitPath sp t ≠ [] := by
  cases t with
  | nil => simp [splitPath]
  | cons b rest =>
    unfold splitPath
    split
    · simp
    · split <;> simp

theorem pathState_ne_nil (scheme : Bytes) (path : List Bytes) (t : Bytes) : pathState scheme path t ≠ [] :=
  pathSegments_ne_nil _ _ _ (splitPath_ne_nil _ _)

theorem pathSerialized_shape (u : Url) (h : u.isOpaque = false) :
    u.pathSerialized = [] ∨ u.pathSerialized.head? = some 0x2F := by
  unfold Url.pathSerialized
  simp only [h, Bool.false_eq_true, ↓reduceIte]
  cases u.path with
  | nil => left; rfl
  | cons a t => right; simp

def portOk (scheme : Bytes) : Option Nat → Prop
  | none => True
  | some q => q ≤ 65535 ∧ defaultPort scheme ≠ some q

theorem portOkB_iff (scheme : Bytes) (p : Option Nat) : portOkB scheme p = true ↔ portOk scheme p := by
  cases p <;> simp [portOkB, portOk]

theorem cannotHave_iff (u : Url) : u.cannotHaveUsernamePasswordPort = true ↔
    (u.host = none ∨ u.host = some .empty ∨ u.scheme = bFile) := by
  simp [Url.cannotHaveUsernamePasswordPort, or_assoc]

theorem hostNonEmpty_iff (h : Option Host) : hostNonEmpty h = true ↔ ∃ x, h = some x ∧ x ≠ .empty := by
  cases h with
  | none => simp [hostNonEmpty]
  | some x => cases x <;> simp [hostNonEmpty]

structure InvOk (u : Url) : Prop where
  scheme : schemeOk u.scheme = true
  wf : hostWf u.host = true
  special : isSpecialScheme u.scheme = true →
    u.isOpaque = false ∧ u.path ≠ [] ∧ ∃ h, u.host = some h ∧ (u.scheme ≠ bFile → h ≠ .empty)
  nocred : (u.host = none ∨ u.host = some .empty ∨ u.scheme = bFile) → u.username = [] ∧ u.password = [] ∧ u.port = none
  port : portOk u.scheme u.port
  opq : u.isOpaque = true → u.host = none

theorem recInv_iff (u : Url) : RecInv u = true ↔ InvOk u := by
  have e : RecInv u = true ↔ (((((schemeOk u.scheme = true ∧ hostWf u.host = true) ∧
          (isSpecialScheme u.scheme = true →
            (((∃ a, u.host = some a) ∧ (u.scheme = bFile ∨ ∃ x, u.host = some x ∧ x ≠ Host.empty)) ∧
                u.isOpaque = false) ∧ u.path ≠ [])) ∧
        ((u.host = none ∨ u.host = some .empty ∨ u.scheme = bFile) →
          (u.username = [] ∧ u.password = []) ∧ u.port = none)) ∧
      portOk u.scheme u.port) ∧ (u.isOpaque = true → u.host = none)) := by
    simp only [RecInv, Bool.and_eq_true, Bool.or_eq_true, Bool.not_eq_true', portOkB_iff, Url.isSpecial,
      beq_iff_eq, Option.isSome_iff_exists, hostNonEmpty_iff, ← cannotHave_iff,
      List.isEmpty_iff, Option.isNone_iff_eq_none, ← Bool.not_eq_true, Decidable.imp_iff_not_or]
  rw [e]
  constructor
  · rintro ⟨⟨⟨⟨⟨h1, h2⟩, h3⟩, h4⟩, h5⟩, h6⟩
    refine ⟨h1, h2, fun hs => ?_, fun hc => ?_, h5, h6⟩
    · obtain ⟨⟨⟨⟨a, ha⟩, hne⟩, ho⟩, hp⟩ := h3 hs
      refine ⟨ho, hp, a, ha, fun hnf => ?_⟩
      rcases hne with e | ⟨x, hx, hxe⟩
      · exact absurd e hnf
      · rw [ha] at hx; cases hx; exact hxe
    · exact ⟨(h4 hc).1.1, (h4 hc).1.2, (h4 hc).2⟩
  · intro r
    refine ⟨⟨⟨⟨⟨r.scheme, r.wf⟩, fun hs => ?_⟩, fun hc => ?_⟩, r.port⟩, r.opq⟩
    · obtain ⟨ho, hp, a, ha, hne⟩ := r.special hs
      refine ⟨⟨⟨⟨a, ha⟩, ?_⟩, ho⟩, hp⟩
      by_cases hf : u.scheme = bFile
      · exact Or.inl hf
      · exact Or.inr ⟨a, ha, hne hf⟩
    · exact ⟨⟨(r.nocred hc).1, (r.nocred hc).2.1⟩, (r.nocred hc).2.2⟩

theorem portOk_of_recinv (u : Url) (h : RecInv u = true) : portOk u.scheme u.port := ((recInv_iff u).1 h).port
theorem schemeOk_of_recinv (u : Url) (h : RecInv u = true) : schemeOk u.scheme = true := ((recInv_iff u).1 h).scheme

theorem InvOk.with_cred {u : Url} (r : InvOk u) (hc : ¬ (u.host = none ∨ u.host = some .empty ∨ u.scheme = bFile))
    (user pass : Bytes) (port : Option Nat) (hp : portOk u.scheme port) :
    InvOk { u with username := user, password := pass, port := port } :=
  ⟨r.scheme, r.wf, r.special, fun h => absurd h hc, hp, r.opq⟩

theorem InvOk.with_path {u : Url} (r : InvOk u) (path : List Bytes) (hp : isSpecialScheme u.scheme = true → path ≠ [])
    (opath : Bytes) (q f : Option Bytes) :
    InvOk { u with path := path, opath := opath, query := q, fragment := f } :=
  ⟨r.scheme, r.wf, fun hs => ⟨(r.special hs).1, hp hs, (r.special hs).2.2⟩, r.nocred, r.port, r.opq⟩

theorem InvOk.with_host {u : Url} (r : InvOk u) (ho : u.isOpaque = false) (h : Host) (hwf : hostWf (some h) = true)
    (he : h = .empty → (isSpecialScheme u.scheme = false ∨ u.scheme = bFile) ∧
      u.username = [] ∧ u.password = [] ∧ u.port = none) :
    InvOk { u with host := some h } := by
  refine ⟨r.scheme, hwf, fun hs => ⟨ho, (r.special hs).2.1, h, rfl, fun hnf e => ?_⟩, ?_, r.port,
    fun hop => absurd (ho ▸ hop) (by simp)⟩
  · rcases (he e).1 with h1 | h1
    · rw [hs] at h1; cases h1
    · exact hnf h1
  · rintro (h1 | h1 | h1)
    · cases h1
    · injection h1 with e; exact (he e).2
    · exact r.nocred (Or.inr (Or.inr h1))

theorem recinv_username (u : Url) (v : Bytes) (h : RecInv u = true) : RecInv (setUsername u v) = true := by
  unfold setUsername
  split
  · exact h
  · rename_i hc
    have r := (recInv_iff u).1 h
    exact (recInv_iff _).2 (r.with_cred (fun hn => hc ((cannotHave_iff u).2 hn)) _ u.password u.port r.port)

theorem recinv_password (u : Url) (v : Bytes) (h : RecInv u = true) : RecInv (setPassword u v) = true := by
  unfold setPassword
  split
  · exact h
  · rename_i hc
    have r := (recInv_iff u).1 h
    exact (recInv_iff _).2 (r.with_cred (fun hn => hc ((cannotHave_iff u).2 hn)) u.username _ u.port r.port)

theorem portOverride_ok {u : Url} (r : InvOk u) (hc : ¬ (u.host = none ∨ u.host = some .empty ∨ u.scheme = bFile))
    (s : Bytes) : InvOk (portOverride u s) := by
  unfold portOverride
  simp only
  split
  · exact r
  · split
    · exact r
    · rename_i hp
      split
      · exact r.with_cred hc u.username u.password none trivial
      · rename_i hd
        exact r.with_cred hc u.username u.password (some _) ⟨by omega, by simpa using hd⟩

theorem recinv_port (u : Url) (v : Bytes) (h : RecInv u = true) : RecInv (setPort u v) = true := by
  unfold setPort
  split
  · exact h
  · rename_i hc
    have r := (recInv_iff u).1 h
    have hc' := fun hn => hc ((cannotHave_iff u).2 hn)
    split
    · exact (recInv_iff _).2 (r.with_cred hc' u.username u.password none trivial)
    · exact (recInv_iff _).2 (portOverride_ok r hc' _)

theorem strip_ok {u : Url} (r : InvOk u) : InvOk u.stripTrailingSpaces := by
  unfold Url.stripTrailingSpaces
  split; · exact r
  split; · exact r
  split; · exact r
  exact r.with_path u.path (fun hs => (r.special hs).2.1) _ u.query u.fragment

theorem recinv_search (u : Url) (v : Bytes) (h : RecInv u = true) : RecInv (setSearch u v) = true := by
  have r := (recInv_iff u).1 h
  have k := fun q => r.with_path u.path (fun hs => (r.special hs).2.1) u.opath q u.fragment
  unfold setSearch
  split
  · exact (recInv_iff _).2 (strip_ok (k none))
  · exact (recInv_iff _).2 (k (some _))

theorem recinv_hash (u : Url) (v : Bytes) (h : RecInv u = true) : RecInv (setHash u v) = true := by
  have r := (recInv_iff u).1 h
  have k := fun f => r.with_path u.path (fun hs => (r.special hs).2.1) u.opath u.query f
  unfold setHash
  split
  · exact (recInv_iff _).2 (strip_ok (k none))
  · exact (recInv_iff _).2 (k (some _))

theorem recinv_pathname (u : Url) (v : Bytes) (h : RecInv u = true) : RecInv (setPathname u v) = true := by
  have r := (recInv_iff u).1 h
  unfold setPathname
  split
  · exact h
  · refine (recInv_iff _).2 (r.with_path _ (fun hs => ?_) u.opath u.query u.fragment)
    simp only [Url.isSpecial, hs, ↓reduceIte]
    split
    · split <;> exact pathState_ne_nil _ _ _
    · exact pathState_ne_nil _ _ _

theorem lower_schemeChar (b : UInt8) (h : isSchemeChar b = true) : isLowerSchemeByte (toLowerByte b) = true := by
  rcases Lower.cases b with ⟨hu, e⟩ | ⟨_, hl, _⟩
  · rw [e]
    simpa [isSchemeChar, isAsciiAlnum, isAsciiAlpha, isLowerSchemeByte, hu] using h
  · simp [isLowerSchemeByte, hl]
theorem lower_alpha : ∀ b : UInt8, isAsciiAlpha b = true → isAsciiLower (toLowerByte b) = true ∧ isSchemeChar b = true :=
  fun b h => ⟨Lower.of_alpha b h, by simp [isSchemeChar, isAsciiAlnum, h]⟩

theorem schemeOk_of_takeWhile (c : UInt8) (t : Bytes) (hc : isAsciiAlpha c = true) :
    schemeOk (((c :: t).takeWhile isSchemeChar).map toLowerByte) = true := by
  have ⟨h1, h2⟩ := lower_alpha c hc
  simp only [List.takeWhile_cons, h2, ↓reduceIte, List.map_cons, schemeOk, h1, Bool.true_and, List.all_eq_true,
    List.mem_map]
  rintro x ⟨y, hy, rfl⟩
  exact lower_schemeChar y (mem_takeWhile hy)

theorem takeScheme_ok (s name rest : Bytes) (h : takeScheme s = some (name, rest)) : schemeOk name = true := by
  unfold takeScheme at h
  split at h
  · cases h
  · rename_i c t
    split at h
    · cases h
    · rename_i hc
      simp only at h
      split at h
      · injection h with h; injection h with h1 h2
        rw [← h1]
        exact schemeOk_of_takeWhile c t (by simpa using hc)
      · cases h

theorem special_file : isSpecialScheme bFile = true := by decide

theorem defaultPort_special (s : Bytes) (p : Nat) (h : defaultPort s = some p) : isSpecialScheme s = true := by
  cases hs : isSpecialScheme s with
  | true => rfl
  | false =>
    simp only [isSpecialScheme, Bool.or_eq_false_iff] at hs
    simp [defaultPort, hs] at h

theorem recinv_protocolCore (u : Url) (buf : Bytes) (hok : schemeOk buf = true) (h : RecInv u = true) :
    RecInv (protocolCore u buf) = true := by
  unfold protocolCore
  split; · exact h
  rename_i hsp
  split; · exact h
  rename_i hcp
  split; · exact h
  rename_i hfe
  have r := (recInv_iff u).1 h
  have hsp' : isSpecialScheme buf = isSpecialScheme u.scheme := by simpa using (Eq.symm (by simpa using hsp))
  have hcp' : buf = bFile → u.username = [] ∧ u.password = [] ∧ u.port = none := by
    intro e
    cases hp : u.port <;> simp_all [Url.includesCredentials]
  -- the record with the new scheme and a port still to be chosen
  have key : ∀ port, (port = u.port ∨ port = none) → portOk buf port →
      InvOk { u with scheme := buf, port := port } := by
    intro port hport hpok
    refine ⟨hok, r.wf, fun hs => ?_, ?_, hpok, r.opq⟩
    · obtain ⟨ho, hp, a, ha, hne⟩ := r.special (hsp' ▸ hs)
      refine ⟨ho, hp, a, ha, fun _ e => ?_⟩
      by_cases hf : u.scheme = bFile
      · exact hfe (by simp [hf, ha, e])
      · exact hne hf e
    · have hnone : u.port = none → port = none := fun e => by rcases hport with e' | e' <;> simp [e', e]
      rintro (h1 | h1 | h1)
      · have := r.nocred (Or.inl h1); exact ⟨this.1, this.2.1, hnone this.2.2⟩
      · have := r.nocred (Or.inr (Or.inl h1)); exact ⟨this.1, this.2.1, hnone this.2.2⟩
      · have := hcp' h1; exact ⟨this.1, this.2.1, hnone this.2.2⟩
  simp only
  split
  · exact (recInv_iff _).2 (key none (Or.inr rfl) trivial)
  · rename_i hd
    refine (recInv_iff _).2 (key u.port (Or.inl rfl) ?_)
    have hp := r.port
    cases hpt : u.port with
    | none => trivial
    | some p =>
      rw [hpt] at hp
      exact ⟨hp.1, fun e => hd (by simp [hpt, e])⟩

theorem recinv_protocol (u : Url) (v : Bytes) (h : RecInv u = true) : RecInv (setProtocol u v) = true := by
  unfold setProtocol
  simp only
  split
  · exact h
  · rename_i c t hs
    split
    · exact h
    · rename_i hc
      split
      · rw [hs]; exact recinv_protocolCore u _ (schemeOk_of_takeWhile c t (by simpa using hc)) h
      · exact h

theorem domainToAscii_ne_nil (idna : Idna) (d r : Bytes) (h : domainToAscii idna d = some r) : r ≠ [] := by
  unfold domainToAscii at h
  simp only at h
  split at h
  · split at h
    · cases h
    · rename_i hne; injection h with h; subst h
      intro hh; simp [hh] at hne
  · cases h

theorem hostParse_wf (idna : Idna) (s : Bytes) (opq : Bool) (h : Host) (hs : s ≠ [])
    (hp : hostParse idna s opq = some h) : hostWf (some h) = true ∧ h ≠ .empty := by
  unfold hostParse at hp
  split at hp
  · split at hp
    · cases hp
    · simp only [Option.map_eq_some_iff] at hp
      obtain ⟨a, _, rfl⟩ := hp
      simp [hostWf]
  · split at hp
    · unfold opaqueHostParse at hp
      split at hp
      · cases hp
      · injection hp with hp; subst hp
        have := percentEncode_ne_nil inC0 s hs
        simp [hostWf, this]
    · simp only at hp
      split at hp
      · cases hp
      · rename_i ascii hd
        split at hp
        · cases hp
        · split at hp
          · simp only [Option.map_eq_some_iff] at hp
            obtain ⟨a, _, rfl⟩ := hp
            simp [hostWf]
          · injection hp with hp; subst hp
            have := domainToAscii_ne_nil idna _ _ hd
            simp [hostWf, this]

/-- The splits follow `setHostGeneric`: an opaque path changes nothing; `file` takes the buffer up to `/ \ ? #` (empty
    buffer and `localhost` give the empty host); otherwise the buffer ends at a `:` outside brackets (host, then port
    override) or at the end (a special scheme refuses an empty host, credentials or a port refuse it too).  Every
    failure branch returns `u`. -/
theorem recinv_host (hn : Bool) (idna : Idna) (u : Url) (v : Bytes) (hu : RecInv u = true) :
    RecInv (setHostGeneric hn idna u v) = true := by
  have r := (recInv_iff u).1 hu
  unfold setHostGeneric
  split
  · exact hu
  · rename_i ho
    have ho' : u.isOpaque = false := by simpa using ho
    -- a parsed host of a non-empty buffer, and the empty host where it is allowed
    have parsed : ∀ buf opq h, ¬ buf.isEmpty = true → hostParse idna buf opq = some h → InvOk { u with host := some h } :=
      fun buf opq h hne hp =>
        have ⟨hwf, hne'⟩ := hostParse_wf idna buf opq h (ne_nil_of_not_isEmpty hne) hp
        r.with_host ho' h hwf (fun e => absurd e hne')
    have empty : (isSpecialScheme u.scheme = false ∨ u.scheme = bFile) →
        (u.username = [] ∧ u.password = [] ∧ u.port = none) → InvOk { u with host := some .empty } :=
      fun h1 h2 => r.with_host ho' .empty rfl (fun _ => ⟨h1, h2⟩)
    simp only
    split
    · -- file: the empty buffer, a failed parse, `localhost`, a parsed host
      rename_i hf
      have hf' : u.scheme = bFile := by simpa using hf
      have hnc := r.nocred (Or.inr (Or.inr hf'))
      split
      · exact (recInv_iff _).2 (empty (Or.inr hf') hnc)
      · rename_i hbne
        split
        · exact hu
        · rename_i h hp
          split
          · exact (recInv_iff _).2 (empty (Or.inr hf') hnc)
          · exact (recInv_iff _).2 (parsed _ _ h hbne hp)
    · rename_i hnf
      have hnf' : u.scheme ≠ bFile := by simpa using hnf
      split
      · -- ':' outside brackets: empty buffer, hostname override, failed parse fail; else host, then port override
        split
        · exact hu
        · rename_i hbne
          split
          · exact hu
          · split
            · exact hu
            · rename_i h hp
              have ⟨_, hne'⟩ := hostParse_wf idna _ _ h (ne_nil_of_not_isEmpty hbne) hp
              refine (recInv_iff _).2 (portOverride_ok (parsed _ _ h hbne hp) ?_ _)
              rintro (h1 | h1 | h1)
              · cases h1
              · injection h1 with e; exact hne' e
              · exact hnf' h1
      · -- no ':': a special scheme or credentials/port refuse the empty buffer
        split
        · exact hu
        · rename_i hse
          split
          · exact hu
          · rename_i hce
            split
            · exact hu
            · rename_i h hp
              split
              · rename_i hbe
                refine (recInv_iff _).2 (empty (Or.inl ?_) ?_)
                · cases hh : isSpecialScheme u.scheme with
                  | false => rfl
                  | true => exact absurd (by rw [hbe, Url.isSpecial, hh]; rfl) hse
                · cases hpt : u.port <;> simp_all [Url.includesCredentials]
              · rename_i hbe
                exact (recInv_iff _).2 (parsed _ _ h hbe hp)

end AdaVerif.Lemmas
