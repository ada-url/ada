import AdaVerif.Model.ParseSpecial
import AdaVerif.Lemmas.SimpleAbs
import AdaVerif.Lemmas.HostSetter
import AdaVerif.Lemmas.Bracket
import AdaVerif.Lemmas.Protocol
import AdaVerif.Lemmas.Cut
/-
The states of `parse_url_impl<ada::url>` (Model/ParseSpecial.lean) that need no base, each equal to the Standard's state on the
same text: the model works on `text ++ qs q` (the query still attached, as `input_position` sees it), the Standard on `text`.
The two machines built from these states are in ParseBase.lean.
-/
namespace AdaVerif.Lemmas.PS
open AdaVerif AdaVerif.Spec AdaVerif.Lemmas AdaVerif.Model AdaVerif.Model.ParseSpecial AdaVerif.Model.UrlRec AdaVerif.Model.HostParse

theorem tn_c0 (b : UInt8) (h : (!isTabOrNewline b) = false) : isC0OrSpace b = true := by
  cases hc : isC0OrSpace b with
  | true => rfl
  | false => rw [FP.c0sp_tn b hc] at h; cases h

theorem filter_dropWhile (s : Bytes) :
    (s.filter (fun b => !isTabOrNewline b)).dropWhile isC0OrSpace = (s.dropWhile isC0OrSpace).filter (fun b => !isTabOrNewline b) := by
  induction s with
  | nil => rfl
  | cons x t ih =>
    by_cases hp : isC0OrSpace x = true
    · by_cases hq : (!isTabOrNewline x) = true
      · simp only [List.filter_cons, hq, ↓reduceIte, List.dropWhile_cons, hp, ih]
      · simp only [List.filter_cons, hq, Bool.false_eq_true, ↓reduceIte, List.dropWhile_cons, hp, ih]
    · have hq : (!isTabOrNewline x) = true := by
        cases h : (!isTabOrNewline x) with
        | true => rfl
        | false => exact absurd (tn_c0 x h) hp
      simp only [List.filter_cons, hq, ↓reduceIte, List.dropWhile_cons, hp, Bool.false_eq_true]

/-- removing tab/newline first and trimming afterwards (the code) = trimming first (the Standard) -/
theorem trim_order (s : Bytes) :
    dropWhileEnd isC0OrSpace ((stripTN s).dropWhile isC0OrSpace) = preprocess s := by
  unfold stripTN preprocess dropWhileEnd
  rw [filter_dropWhile, ← List.filter_reverse, filter_dropWhile, List.filter_reverse]

theorem pruneHash_eq (t : Bytes) : pruneHash t = cutAt 0x23 t := by
  obtain ⟨e, hn⟩ := Cut.cutAt_split 0x23 t
  rcases hc : cutAt 0x23 t with ⟨a, o⟩
  rw [hc] at e hn
  unfold pruneHash
  rw [e, Cut.takeWhile_sfx _ a o hn]
  cases o <;> simp [Cut.sfx]

theorem prep_eq (input : Bytes) : prep input = cutAt 0x23 (preprocess input) := by
  unfold prep
  rw [pruneHash_eq, trim_order]
theorem schemeScan_spec (d : Bytes) : takeScheme d = (schemeScan d).map (fun p => (p.1.map toLowerByte, p.2)) := by
  unfold takeScheme schemeScan
  cases d with
  | nil => rfl
  | cons c t =>
    simp only
    rw [FS.isAlpha_eq, Proto.alnumPlus_fun]
    by_cases ha : isAsciiAlpha c = true
    · simp only [ha, Bool.not_true, Bool.false_eq_true, ↓reduceIte]
      generalize List.takeWhile isSchemeChar (c :: t) = name
      cases hd : List.drop name.length (c :: t) with
      | nil => simp
      | cons p rest =>
        by_cases hp : p = 0x3A
        · subst hp; simp
        · have hp' : (p == 0x3A) = false := by simpa using hp
          simp only [hp', Bool.false_eq_true, ↓reduceIte, Option.map_none]
          split
          · rename_i heq; injection heq with e _; exact absurd e hp
          · rfl
    · simp [ha]

theorem parseSchemeNoOverride_spec (name : Bytes) :
    parseSchemeNoOverride name = (getSchemeType (name.map toLowerByte), name.map toLowerByte) := by
  unfold parseSchemeNoOverride
  have hf := Proto.type_facts name
  by_cases hpt : (getSchemeType name != 1) = true
  · have hne : getSchemeType name ≠ 1 := by simpa using hpt
    obtain ⟨hname, hlow⟩ := hf.2.2.2 hne
    simp only [hpt, ↓reduceIte, hname, hlow]
  · simp only [hpt, Bool.false_eq_true, ↓reduceIte]
    generalize name.map toLowerByte = buf
    have hb := Proto.type_facts buf
    by_cases hx : (getSchemeType buf != 1) = true
    · simp only [hx, ↓reduceIte]
      rw [(hb.2.2.2 (by simpa using hx)).1]
    · simp [hx]

theorem skipAuthoritySlashes_eq (t : Bytes) : skipAuthoritySlashes t = skipSlashes t := by
  unfold skipAuthoritySlashes skipSlashes
  split
  · simp
  · rfl


/-- the credentials the Standard derives from the text `c` in front of the last '@' -/
def mk (c : Bytes) : Cred :=
  ⟨encUser (cutAt 0x3A c).1, encUser ((cutAt 0x3A c).2.getD []), true, (cutAt 0x3A c).2.isSome⟩

theorem enc_append (a b : Bytes) : encUser (a ++ b) = encUser a ++ encUser b := by
  simp [encUser, Spec.percentEncode, List.flatMap_append]
theorem enc_nil : encUser [] = [] := rfl

theorem enc_at (a p : Bytes) : encUser (a ++ 0x40 :: p) = encUser a ++ [0x25, 0x34, 0x30] ++ encUser p := by
  have : encUser [0x40] = [0x25, 0x34, 0x30] := by decide
  rw [show a ++ 0x40 :: p = a ++ ([0x40] ++ p) from rfl, enc_append, enc_append, this, List.append_assoc]

theorem findColon_sfx (a : Bytes) (o : Option Bytes) (h : (0x3A : UInt8) ∉ a) :
    findColon (a ++ Cut.sfx 0x3A o) = o.map (fun _ => a.length) := by
  unfold findColon
  simp only [Cut.takeWhile_sfx _ a o h]
  cases o <;> simp [Cut.sfx]

theorem absorb_sfx (st : Cred) (a : Bytes) (o : Option Bytes) (h : (0x3A : UInt8) ∉ a) :
    absorb st (a ++ Cut.sfx 0x3A o) =
      (if st.tokenSeen then
        { st with atSeen := true, pass := st.pass ++ (if st.atSeen then [0x25, 0x34, 0x30] else []) ++ encUser (a ++ Cut.sfx 0x3A o) }
       else
        { user := st.user ++ (if st.atSeen then [0x25, 0x34, 0x30] else []) ++ encUser a, pass := st.pass ++ encUser (o.getD []),
          atSeen := true, tokenSeen := o.isSome }) := by
  obtain ⟨u, p, at_, tok⟩ := st
  unfold absorb
  rw [findColon_sfx a o h]
  cases o with
  | none => cases at_ <;> cases tok <;> simp [Cut.sfx, enc_nil]
  | some r =>
    have ht : (a ++ 0x3A :: r).take a.length = a := by simp
    have hd : (a ++ 0x3A :: r).drop (a.length + 1) = r := by rw [← List.drop_drop, List.drop_left]; rfl
    cases at_ <;> cases tok <;> simp [Cut.sfx, ht, hd]

theorem absorb_init (p : Bytes) : absorb {} p = mk p := by
  obtain ⟨e, hn⟩ := Cut.cutAt_split 0x3A p
  conv => lhs; rw [e]
  rw [absorb_sfx _ _ _ hn]
  simp [mk]

theorem absorb_mk (c0 p : Bytes) : absorb (mk c0) p = mk (c0 ++ 0x40 :: p) := by
  obtain ⟨e0, h0⟩ := Cut.cutAt_split 0x3A c0
  obtain ⟨e, hn⟩ := Cut.cutAt_split 0x3A p
  conv => lhs; rw [e]
  rw [absorb_sfx _ _ _ hn, ← e]
  rcases hc0 : cutAt 0x3A c0 with ⟨a0, _ | r0⟩
  · -- no password yet: the ':' of `p`, if any, is the first
    rw [hc0] at e0 h0
    simp only [Cut.sfx, List.append_nil] at e0 h0
    subst e0
    have hcut : cutAt 0x3A (c0 ++ 0x40 :: p) = (c0 ++ 0x40 :: (cutAt 0x3A p).1, (cutAt 0x3A p).2) := by
      conv => lhs; rw [e]
      rw [show c0 ++ 0x40 :: ((cutAt 0x3A p).1 ++ Cut.sfx 0x3A (cutAt 0x3A p).2) =
        (c0 ++ 0x40 :: (cutAt 0x3A p).1) ++ Cut.sfx 0x3A (cutAt 0x3A p).2 by simp]
      apply Cut.cutAt_sfx
      simp [h0, hn]
    simp [mk, hc0, hcut, enc_at, enc_nil]
  · -- the password already started: everything goes there
    rw [hc0] at e0 h0
    have hcut : cutAt 0x3A (c0 ++ 0x40 :: p) = (a0, some (r0 ++ 0x40 :: p)) := by
      rw [e0]
      exact (by simp [Cut.sfx] : a0 ++ Cut.sfx 0x3A (some r0) ++ 0x40 :: p = a0 ++ Cut.sfx 0x3A (some (r0 ++ 0x40 :: p))) ▸
        Cut.cutAt_sfx 0x3A a0 _ h0
    simp [mk, hc0, hcut, enc_at]

def AuthBytes (sp : Bool) (A : Bytes) : Prop := ∀ b ∈ A, isHardDelim sp b = false
/-- what can stand behind an authority: nothing, or a text that starts with a byte that ends one -/
def AuthTail (sp : Bool) (T : Bytes) : Prop := T = [] ∨ ∃ c t, T = c :: t ∧ isHardDelim sp c = true

theorem AuthTail.stop {sp : Bool} {T : Bytes} (hT : AuthTail sp T) (p : UInt8 → Bool) (hp : ∀ c, isHardDelim sp c = true → p c = false) :
    T = [] ∨ ∃ c t, T = c :: t ∧ p c = false := by
  rcases hT with h | ⟨c, t, h, hc⟩
  · exact Or.inl h
  · exact Or.inr ⟨c, t, h, hp c hc⟩

theorem hard_not_at (sp : Bool) (c : UInt8) (h : isHardDelim sp c = true) : c ≠ 0x40 := by
  rcases BR.hard_cases sp c h with rfl | rfl | rfl <;> decide

theorem hard_facts (sp : Bool) (b : UInt8) (h : isHardDelim sp b = false) : b ≠ 0x2F ∧ b ≠ 0x3F ∧ (sp = true → b ≠ 0x5C) := by
  cases sp <;> simp [isHardDelim] at h ⊢
  · exact h
  · exact ⟨h.1.1, h.1.2, h.2⟩

theorem authDelim_piece (sp : Bool) (p rest : Bytes) (hp : ∀ b ∈ p, b ≠ 0x40 ∧ isHardDelim sp b = false)
    (hr : rest = [] ∨ ∃ c t, rest = c :: t ∧ (!(c == 0x40 || isHardDelim sp c)) = false) :
    authDelim sp (p ++ rest) = p.length := by
  unfold authDelim
  rw [takeWhile_prefix_stop _ p rest hr, takeWhile_eq_self _ p (fun b hb => by simp [hp b hb])]

theorem mk_atSeen (c : Bytes) : (mk c).atSeen = true := rfl

/-- the credentials text after one more piece `c`: `c0@c` if an '@' was seen before (`c0` = the text up to it), else `c` -/
def jn (st : Cred) (c0 c : Bytes) : Bytes := if st.atSeen then c0 ++ 0x40 :: c else c

theorem absorb_jn (st : Cred) (c0 p : Bytes) (hst : st = {} ∨ st = mk c0) : absorb st p = mk (jn st c0 p) := by
  rcases hst with h | h
  · subst h; simp [jn, absorb_init]
  · subst h; simp [jn, mk_atSeen, absorb_mk]

theorem authLoop_stop (sp : Bool) (f : Nat) (A T : Bytes) (st : Cred) (hA : ∀ b ∈ A, b ≠ 0x40 ∧ isHardDelim sp b = false)
    (hT : AuthTail sp T) :
    authLoop sp (f + 1) (A ++ T) st = if st.atSeen && A.isEmpty then none else some (A ++ T, st) := by
  have hd := authDelim_piece sp A T hA (hT.stop _ (fun c hc => by simp [hc]))
  unfold authLoop
  simp only [hd, List.take_left', List.drop_left']
  rcases hT with rfl | ⟨c, t, rfl, hc⟩
  · rfl
  · split
    · rename_i heq; injection heq with e _; exact absurd e (hard_not_at sp c hc)
    · rfl

theorem authLoop_spec (sp : Bool) : ∀ (n : Nat) (A T : Bytes) (fuel : Nat) (st : Cred) (c0 : Bytes), A.length ≤ n → A.length < fuel →
    AuthBytes sp A → AuthTail sp T → (st = {} ∨ st = mk c0) →
    authLoop sp fuel (A ++ T) st =
      (match splitCredentials A with
       | (none, _) => if st.atSeen && A.isEmpty then none else some (A ++ T, st)
       | (some c, hp) => if hp.isEmpty then none else some (hp ++ T, mk (jn st c0 c))) := by
  intro n A T fuel
  -- the bound `n` plays no part: the loop's own fuel carries the induction
  induction fuel generalizing A with
  | zero => intro _ _ _ hf; omega
  | succ f ih =>
    intro st c0 hn hf hA hT hst
    obtain ⟨rest, e, hr⟩ := takeWhile_split (· != 0x40) A
    have hpb : ∀ b ∈ A.takeWhile (· != 0x40), b ≠ 0x40 ∧ isHardDelim sp b = false := fun b hb =>
      ⟨by simpa using mem_takeWhile hb, hA b ((List.takeWhile_prefix (p := (· != 0x40))).subset hb)⟩
    generalize A.takeWhile (· != 0x40) = p at e hpb
    rcases hr with rfl | ⟨c, A', rfl, hc⟩
    · -- no '@' in the authority
      rw [List.append_nil] at e
      subst e
      rw [authLoop_stop sp f A T st hpb hT, FP.splitCredentials_none A (fun hm => (hpb _ hm).1 rfl)]
    · -- a piece, an '@', and more
      have hc' : c = 0x40 := by simpa using hc
      subst hc' e
      have hd := authDelim_piece sp p (0x40 :: (A' ++ T)) hpb (Or.inr ⟨0x40, A' ++ T, rfl, by simp⟩)
      rw [show p ++ 0x40 :: A' ++ T = p ++ 0x40 :: (A' ++ T) by simp]
      unfold authLoop
      simp only [hd, List.take_left', List.drop_left']
      rw [absorb_jn st c0 p hst, ih A' (mk (jn st c0 p)) (jn st c0 p) (by simp at hn; omega) (by simp at hf; omega)
        (fun b hb => hA b (by simp [hb])) hT (Or.inr rfl)]
      by_cases hat : (0x40 : UInt8) ∈ A'
      · -- the last '@' is further on
        obtain ⟨c', hp', hsc', hno'⟩ := mem_split_last 0x40 A' hat
        rw [hsc', FP.splitCredentials_some c' hp' hno', show p ++ 0x40 :: (c' ++ 0x40 :: hp') = (p ++ 0x40 :: c') ++ 0x40 :: hp' by simp,
          FP.splitCredentials_some _ hp' hno']
        by_cases hst' : st.atSeen = true
        · simp [jn, hst', mk_atSeen, List.append_assoc]
        · simp [jn, hst', mk_atSeen]
      · rw [FP.splitCredentials_none A' hat, FP.splitCredentials_some p A' hat]
        simp only [mk_atSeen, Bool.true_and]

def credOf (c : Option Bytes) : Cred :=
  match c with
  | none => {}
  | some c => mk c

/-- AUTHORITY: the text up to the last '@' of the authority becomes the credentials; the shape is `Spec.parseAuthority`'s -/
theorem authority_spec (sp : Bool) (A T : Bytes) (hA : AuthBytes sp A) (hT : AuthTail sp T) :
    authority sp (A ++ T) =
      if (splitCredentials A).1.isSome && (splitCredentials A).2.isEmpty then none
      else some ((splitCredentials A).2 ++ T, credOf (splitCredentials A).1) := by
  unfold authority
  by_cases hc : (A ++ T).contains 0x40 = true
  · simp only [hc, Bool.not_true, Bool.false_eq_true, ↓reduceIte]
    rw [authLoop_spec sp A.length A T ((A ++ T).length + 1) {} [] (Nat.le_refl _) (by simp; omega) hA hT (Or.inl rfl)]
    rcases hsc : splitCredentials A with ⟨_ | c, hp⟩
    · have : (0x40 : UInt8) ∉ A := fun hm => by
        obtain ⟨c, hp, e, hn⟩ := mem_split_last 0x40 A hm
        rw [e, FP.splitCredentials_some c hp hn] at hsc
        cases hsc
      rw [FP.splitCredentials_none A this] at hsc
      cases hsc
      simp [credOf]
    · simp [jn, credOf]
  · simp only [hc, Bool.not_false, ↓reduceIte]
    rw [FP.splitCredentials_none A (fun hm => hc (by simp [hm]))]
    rfl

theorem splitCredentials_sub (A : Bytes) : ∀ b ∈ (splitCredentials A).2, b ∈ A := by
  by_cases hat : (0x40 : UInt8) ∈ A
  · obtain ⟨c, hp, e, hn⟩ := mem_split_last 0x40 A hat
    rw [e, FP.splitCredentials_some c hp hn]
    exact fun b hb => by simp [hb]
  · rw [FP.splitCredentials_none A hat]
    exact fun b hb => hb

theorem digit_hard (sp : Bool) (b : UInt8) (h : isAsciiDigit b = true) : isHardDelim sp b = false := by
  cases hd : isHardDelim sp b with
  | false => rfl
  | true => rcases BR.hard_cases sp b hd with rfl | rfl | rfl <;> cases h

theorem hard_not_dash (sp : Bool) (c : UInt8) (h : isHardDelim sp c = true) : c ≠ 0x2D := by
  rcases BR.hard_cases sp c h with rfl | rfl | rfl <;> decide

/-- PORT with trailing-content check = the Standard's port state on the text up to the authority's end -/
theorem port_spec (sp : Bool) (scheme : Bytes) (P T : Bytes) (hP : AuthBytes sp P) (hT : AuthTail sp T) :
    parsePortTrailing sp ((defaultPort scheme).getD 0) (P ++ T) = (parsePort scheme P).map (fun port => (port, T)) := by
  obtain ⟨R, hPR, hR⟩ := takeWhile_split isAsciiDigit P
  have htw : (P ++ T).takeWhile isAsciiDigit = P.takeWhile isAsciiDigit :=
    takeWhile_prefix_stop isAsciiDigit P T (hT.stop _ (fun c hc => by
      cases hd : isAsciiDigit c with
      | false => rfl
      | true => rw [digit_hard sp c hd] at hc; cases hc))
  generalize hD : P.takeWhile isAsciiDigit = D at hPR htw
  have hDall : D.all isAsciiDigit = true := by rw [← hD]; exact List.all_eq_true.mpr (fun _ => mem_takeWhile)
  unfold parsePortTrailing parsePort
  rw [htw]
  rcases hR with hR | ⟨c, t, hR, hc⟩
  · -- P is all digits
    subst hR
    simp only [List.append_nil] at hPR
    subst hPR
    simp only [hDall, Bool.not_true, Bool.false_eq_true, ↓reduceIte, List.drop_left]
    have hhead : ((P ++ T).head? == some 0x2D) = false := by
      cases P with
      | nil =>
        rcases hT with rfl | ⟨c, t, rfl, hc⟩
        · rfl
        · simp [hard_not_dash sp c hc]
      | cons x r =>
        have : x ≠ 0x2D := fun e => by subst e; simp [isAsciiDigit] at hDall
        simp [this]
    simp only [hhead, Bool.false_eq_true, ↓reduceIte]
    have hok : okTrail sp T = true := by
      rcases hT with rfl | ⟨c, t, rfl, hc⟩
      · rfl
      · exact hc
    by_cases hemp : P.isEmpty = true
    · simp [hemp, hok]
    · have hemp' : P.isEmpty = false := by simpa using hemp
      simp only [hemp', Bool.not_false, Bool.true_and, decide_eq_true_eq, hok, Bool.not_true, Bool.false_eq_true, ↓reduceIte]
      by_cases hbig : parseRadix 10 P > 65535
      · simp [hbig]
      · simp only [hbig, ↓reduceIte]
        rw [UR.portValid_eq]
        cases defaultPort scheme == some (parseRadix 10 P) <;> rfl
  · -- a non-digit inside P
    have hnot : P.all isAsciiDigit = false := by
      rw [hPR, hR]; simp [hc]
    simp only [hnot, Bool.not_false, ↓reduceIte, Option.map_none]
    have hcP : c ∈ P := by rw [hPR, hR]; simp
    have hcA := hP c hcP
    have hdrop : (P ++ T).drop D.length = c :: (t ++ T) := by
      rw [hPR, hR]; simp
    rw [hdrop]
    have hbad : okTrail sp (c :: (t ++ T)) = false := hcA
    simp [hbad]

/-- the query as `input_position` still sees it behind the text: "?q" or nothing (`Cut.sfx 0x3F`, see `qs_eq`) -/
def qs (q : Option Bytes) : Bytes :=
  match q with
  | some q => 0x3F :: q
  | none => []

theorem qs_stop (p : UInt8 → Bool) (hp : p 0x3F = false) (q : Option Bytes) :
    qs q = [] ∨ ∃ c t, qs q = c :: t ∧ p c = false := by
  cases q with
  | none => exact Or.inl rfl
  | some q => exact Or.inr ⟨0x3F, q, rfl, hp⟩

theorem qs_eq (q : Option Bytes) : qs q = Cut.sfx 0x3F q := by cases q <;> rfl

theorem schemeChar_q : isSchemeChar 0x3F = false := by decide

theorem takeScheme_qs (pre : Bytes) (q : Option Bytes) :
    takeScheme (pre ++ qs q) = (takeScheme pre).map (fun p => (p.1, p.2 ++ qs q)) := by
  unfold takeScheme
  cases pre with
  | nil => cases q <;> rfl
  | cons c t =>
    simp only [List.cons_append]
    by_cases ha : isAsciiAlpha c = true
    · simp only [ha, Bool.not_true, Bool.false_eq_true, ↓reduceIte]
      have htw : (c :: (t ++ qs q)).takeWhile isSchemeChar = (c :: t).takeWhile isSchemeChar := by
        have := takeWhile_prefix_stop isSchemeChar (c :: t) (qs q) (qs_stop _ schemeChar_q q)
        simpa using this
      rw [htw]
      obtain ⟨R, hR, _⟩ := takeWhile_split isSchemeChar (c :: t)
      generalize (c :: t).takeWhile isSchemeChar = name at hR
      have hd1 : List.drop name.length (c :: t) = R := by rw [hR]; simp
      have hd2 : List.drop name.length (c :: (t ++ qs q)) = R ++ qs q := by
        have : c :: (t ++ qs q) = name ++ (R ++ qs q) := by
          rw [← List.append_assoc, ← hR]; rfl
        rw [this]; simp
      rw [hd1, hd2]
      cases R with
      | nil => cases q <;> rfl
      | cons x r =>
        by_cases hx : x = 0x3A
        · subst hx; rfl
        · simp only [List.cons_append]
          split
          · rename_i heq; injection heq with e _; exact absurd e hx
          · split
            · rename_i heq; injection heq with e _; exact absurd e hx
            · rfl
    · simp [ha]

theorem skipSlashes_qs (rest : Bytes) (q : Option Bytes) : skipSlashes (rest ++ qs q) = skipSlashes rest ++ qs q := by
  unfold skipSlashes
  exact dropWhile_stop _ rest (qs q) (qs_stop _ (by decide) q)

/-- PATH and QUERY with a path so far = the Standard's path state on the text in front of '?' -/
theorem pathQFrom_spec (sp : Bool) (scheme : Bytes) (ty : Nat) (hty : PP.TyOf scheme ty) (segs : List Bytes) (hn : PP.NoSlash segs)
    (r : Bytes) (q : Option Bytes) (hr : (0x3F : UInt8) ∉ r) :
    pathQFrom sp ty (FP.pathText segs) (r ++ qs q) = (FP.pathText (pathState scheme segs r), q.map (encodeQuery sp)) := by
  unfold pathQFrom
  simp only [qs_eq, Cut.takeWhile_sfx _ r q hr, Cut.rest_sfx, PP.parsePreparedPath_eq scheme ty hty r segs hn]
  rfl

theorem pathQ_spec (sp : Bool) (scheme : Bytes) (ty : Nat) (hty : PP.TyOf scheme ty) (r : Bytes) (q : Option Bytes)
    (hr : (0x3F : UInt8) ∉ r) :
    pathQ sp ty (r ++ qs q) = (FP.pathText (pathState scheme [] r), q.map (encodeQuery sp)) :=
  pathQFrom_spec sp scheme ty hty [] (fun _ h => by cases h) r q hr

/-- PATH_START, PATH and QUERY = the Standard's path start state, with the query cut off behind it -/
theorem pathAndQuery_spec (sp : Bool) (scheme : Bytes) (ty : Nat) (hty : PP.TyOf scheme ty) (hsp : isSpecialScheme scheme = sp)
    (T' : Bytes) (q : Option Bytes) (hno : (0x3F : UInt8) ∉ T') :
    pathAndQuery sp ty (T' ++ qs q) = (FP.pathText (pathStartState scheme T'), q.map (encodeQuery sp)) := by
  unfold pathAndQuery pathStartState
  cases sp with
  | true =>
    simp only [hsp, ↓reduceIte]
    cases T' with
    | nil =>
      cases q with
      | none => simp [qs, UR.pathState_nil, FP.pathText]
      | some q =>
        have := pathQ_spec true scheme ty hty [] (some q) (by simp)
        simpa [qs] using this
    | cons c r =>
      have hr : (0x3F : UInt8) ∉ r := fun h => hno (List.mem_cons_of_mem _ h)
      simp only [List.cons_append]
      by_cases hc : (c == 0x2F || c == 0x5C) = true
      · simp only [hc, ↓reduceIte]
        exact pathQ_spec true scheme ty hty r q hr
      · simp only [hc, Bool.false_eq_true, ↓reduceIte]
        have := pathQ_spec true scheme ty hty (c :: r) q hno
        simpa using this
  | false =>
    simp only [hsp, Bool.false_eq_true, ↓reduceIte]
    cases T' with
    | nil =>
      cases q with
      | none => simp [qs, FP.pathText]
      | some q => simp [qs, FP.pathText, encodeQuery]
    | cons c r =>
      have hr : (0x3F : UInt8) ∉ r := fun h => hno (List.mem_cons_of_mem _ h)
      have hcq := Cut.head_ne hno
      simp only [List.cons_append, hcq, Bool.false_eq_true, ↓reduceIte]
      by_cases hc : (c == 0x2F) = true
      · simp only [hc, ↓reduceIte]
        exact pathQ_spec false scheme ty hty r q hr
      · simp only [hc, Bool.false_eq_true, ↓reduceIte]
        have := pathQ_spec false scheme ty hty (c :: r) q hno
        simpa using this


def outOf : Option Url → Out
  | none => .invalid
  | some u => .ok (UR.recOf u)

def specUrl (scheme : Bytes) (c : Option Bytes) (T' : Bytes) (q frag : Option Bytes) (x : Host × Option Nat) : Url :=
  { scheme := scheme, username := credUser c, password := credPass c, host := some x.1, port := x.2,
    path := pathStartState scheme T', query := q.map (encodeQuery (isSpecialScheme scheme)),
    fragment := frag.map (percentEncode inFragment) }

theorem finish_spec (sp : Bool) (scheme : Bytes) (hsp : isSpecialScheme scheme = sp) (c : Option Bytes) (T' : Bytes) (q frag : Option Bytes)
    (hno : (0x3F : UInt8) ∉ T') (h : Host) (port : Option Nat) :
    finish sp (getSchemeType scheme) scheme (credOf c) frag h.serialize port (T' ++ qs q) =
      .ok (UR.recOf (specUrl scheme c T' q frag (h, port))) := by
  have hf := Proto.type_facts scheme
  have hty : PP.TyOf scheme (getSchemeType scheme) := ⟨hf.2.1, hf.1⟩
  unfold finish
  rw [pathAndQuery_spec sp scheme _ hty hsp T' q hno]
  cases c with
  | none => simp [UR.recOf, specUrl, credOf, Url.isSpecial, hsp, Url.pathSerialized, FP.pathText, credUser, credPass]
  | some c => simp [UR.recOf, specUrl, credOf, mk, encUser, Url.isSpecial, hsp, Url.pathSerialized, FP.pathText, credUser, credPass]

theorem parseHost_view (idna : Idna) (sp : Bool) (view : Bytes) (hid : HP.IdnaAt idna (Spec.percentDecode view)) :
    parseHost idna sp view = if view.isEmpty then none else (hostParse idna view (!sp)).map HP.viewH := by
  cases view with
  | nil => simp [parseHost]
  | cons c r => exact HP.parseHost_eq idna sp _ (by simp) hid

/-- HOST on a host text that fails the bracket condition (not special, or '[' in front): `get_host_delimiter_location` runs over
    the delimiter, the Standard's host state stops in front of it - and both host parsers fail -/
theorem afterAuthority_dirty (idna : Idna) (sp : Bool) (scheme : Bytes) (hsp : isSpecialScheme scheme = sp) (cr : Cred)
    (hp T : Bytes) (frag : Option Bytes) (hid : ∀ d, HP.IdnaAt idna d)
    (hhp : AuthBytes sp hp) (hT : AuthTail sp T)
    (hdirty : HS.bracketClean sp false (hp ++ T) = false) (hok : sp = false ∨ (hp ++ T).head? = some 0x5B) :
    afterAuthority idna sp (getSchemeType scheme) scheme frag (hp ++ T) cr = .invalid ∧ parseHostPort idna scheme hp = none := by
  obtain ⟨e1, e2, e3⟩ := BR.hostEnd_dirty sp hp T false 0 hhp hT hdirty
  have hmem := e2 rfl
  have hne : hp ≠ [] := by intro e; rw [e] at hmem; cases hmem
  have hhead : (hp ++ T).head? = hp.head? := by
    cases hp with
    | nil => exact absurd rfl hne
    | cons c r => rfl
  have hop : (!sp) = true ∨ hp.head? = some 0x5B := by
    rcases hok with e | e
    · exact Or.inl (by simp [e])
    · exact Or.inr (by rw [← hhead]; exact e)
  constructor
  · obtain ⟨pre, d, post, g1, g2, g3⟩ := BR.gScan_dirty sp (hp ++ T) false 0 hdirty
    have hpm := g3 rfl
    have hpre : pre.head? = (hp ++ T).head? := by
      have := congrArg List.head? g1
      rw [List.head?_take] at this
      cases pre with
      | nil => cases hpm
      | cons c r =>
        split at this
        · cases this
        · exact this.symm
    have hop' : (!sp) = true ∨ pre.head? = some 0x5B := by
      rcases hop with e | e
      · exact Or.inl e
      · exact Or.inr (by rw [hpre, hhead]; exact e)
    have hfail := BR.hostParse_over idna sp pre post d (!sp) hpm g2 hop'
    unfold afterAuthority
    unfold getHostDelimiterLocation
    generalize hg : gScan sp false (hp ++ T) 0 = g at g1
    obtain ⟨loc, colon⟩ := g
    simp only [Nat.sub_zero] at g1
    simp only
    have hvne : pre ++ d :: post ≠ [] := by simp
    have hph : parseHost idna sp ((hp ++ T).take loc) = none := by
      rw [g1, HP.parseHost_eq idna sp _ hvne (hid _), hfail]; rfl
    have hemp : ((hp ++ T).take loc).isEmpty = false := by rw [g1]; exact FS.isEmpty_false_of_ne hvne
    cases colon with
    | true => simp only [↓reduceIte, hph]
    | false => simp only [Bool.false_eq_true, ↓reduceIte, hemp, hph]
  · unfold parseHostPort
    have he : hostEnd hp = hp.length := by
      have : hostEnd hp = hostEnd.go hp 0 false := rfl
      rw [this, e1]; omega
    have hemp : hp.isEmpty = false := FS.isEmpty_false_of_ne hne
    have := BR.hostParse_unclosed idna hp (!isSpecialScheme scheme) hmem (e3 (Or.inr hne)) (by rw [hsp]; exact hop)
    simp only [he, Nat.lt_irrefl, ↓reduceIte, hemp, Bool.false_eq_true, this]

/-- HOST and PORT = the Standard's host and port states on the text between the credentials and the authority's end -/
theorem afterAuthority_spec_clean (idna : Idna) (sp : Bool) (scheme : Bytes) (hsp : isSpecialScheme scheme = sp) (c : Option Bytes)
    (hp T' : Bytes) (q frag : Option Bytes) (hid : ∀ d, HP.IdnaAt idna d)
    (hhp : AuthBytes sp hp) (hT : AuthTail sp (T' ++ qs q)) (hno : (0x3F : UInt8) ∉ T')
    (hclean : HS.bracketClean sp false (hp ++ (T' ++ qs q)) = true) :
    afterAuthority idna sp (getSchemeType scheme) scheme frag (hp ++ (T' ++ qs q)) (credOf c) =
      outOf ((parseHostPort idna scheme hp).map (specUrl scheme c T' q frag)) := by
  have hf := Proto.type_facts scheme
  have hupto : (hp ++ (T' ++ qs q)).takeWhile (fun b => !isHardDelim sp b) = hp := by
    rw [takeWhile_prefix_stop _ hp _ (hT.stop _ (fun c hc => by simp [hc])), takeWhile_eq_self _ hp (fun b hb => by simp [hhp b hb])]
  unfold afterAuthority
  rw [HS.split_agree sp _ hclean, hupto]
  unfold parseHostPort
  simp only [hsp]
  by_cases hlt : hostEnd hp < hp.length
  · simp only [hlt, ↓reduceIte]
    rw [List.take_append_of_le_length (by omega), List.drop_append_of_le_length (by omega), parseHost_view idna sp _ (hid _)]
    by_cases hemp : (hp.take (hostEnd hp)).isEmpty = true
    · simp [hemp, outOf]
    · simp only [hemp, Bool.false_eq_true, ↓reduceIte]
      cases hh : hostParse idna (hp.take (hostEnd hp)) (!sp) with
      | none => simp [outOf]
      | some h =>
        simp only [Option.map_some, HP.viewH]
        rw [hf.2.2.1, port_spec sp scheme (hp.drop (hostEnd hp + 1)) (T' ++ qs q)
          (fun b hb => hhp b (List.mem_of_mem_drop hb)) hT]
        cases hpp : parsePort scheme (hp.drop (hostEnd hp + 1)) with
        | none => simp [outOf]
        | some port =>
          simp only [Option.map_some, outOf]
          exact finish_spec sp scheme hsp c T' q frag hno h port
  · simp only [hlt, ↓reduceIte, Bool.false_eq_true, List.take_left', List.drop_left']
    by_cases hemp : hp.isEmpty = true
    · simp only [hemp, ↓reduceIte]
      cases sp with
      | true => simp [outOf]
      | false =>
        simp only [Bool.false_eq_true, ↓reduceIte, Option.map_some, outOf]
        have := finish_spec false scheme hsp c T' q frag hno .empty none
        simpa [Host.serialize] using this
    · simp only [hemp, Bool.false_eq_true, ↓reduceIte, parseHost_view idna sp _ (hid _)]
      cases hh : hostParse idna hp (!sp) with
      | none => simp [outOf]
      | some h =>
        simp only [Option.map_some, HP.viewH, outOf]
        exact finish_spec sp scheme hsp c T' q frag hno h none

theorem afterAuthority_spec (idna : Idna) (sp : Bool) (scheme : Bytes) (hsp : isSpecialScheme scheme = sp) (c : Option Bytes)
    (hp T' : Bytes) (q frag : Option Bytes) (hid : ∀ d, HP.IdnaAt idna d)
    (hhp : AuthBytes sp hp) (hT : AuthTail sp (T' ++ qs q)) (hno : (0x3F : UInt8) ∉ T')
    (hclean : BR.bracketOk sp (hp ++ (T' ++ qs q)) = true) :
    afterAuthority idna sp (getSchemeType scheme) scheme frag (hp ++ (T' ++ qs q)) (credOf c) =
      outOf ((parseHostPort idna scheme hp).map (specUrl scheme c T' q frag)) := by
  by_cases hc : HS.bracketClean sp false (hp ++ (T' ++ qs q)) = true
  · exact afterAuthority_spec_clean idna sp scheme hsp c hp T' q frag hid hhp hT hno hc
  · have hd : HS.bracketClean sp false (hp ++ (T' ++ qs q)) = false := by simpa using hc
    have hok : sp = false ∨ (hp ++ (T' ++ qs q)).head? = some 0x5B := by
      simp only [BR.bracketOk, hd, Bool.false_or, Bool.or_eq_true, Bool.not_eq_true', beq_iff_eq] at hclean
      exact hclean
    obtain ⟨h1, h2⟩ := afterAuthority_dirty idna sp scheme hsp (credOf c) hp (T' ++ qs q) frag hid hhp hT hd hok
    rw [h1, h2]; rfl

/-- the last two `match`es of `Spec.parse` (query, fragment) under a name; tied to it by the `rfl`s in `parse_addQF` -/
def addQF (query frag : Option Bytes) (u : Url) : Url :=
  let u := match query with
    | some q => { u with query := some (encodeQuery u.isSpecial q) }
    | none => u
  match frag with
  | some f => { u with fragment := some (percentEncode inFragment f) }
  | none => u

theorem specUrl_addQF (scheme : Bytes) (c : Option Bytes) (T' : Bytes) (q frag : Option Bytes)
    (x : Host × Option Nat) :
    specUrl scheme c T' q frag x =
      addQF q frag { scheme := scheme, username := credUser c, password := credPass c, host := some x.1, port := x.2,
                     path := pathStartState scheme T' } := by
  cases q <;> cases frag <;> simp [specUrl, addQF, Url.isSpecial]

/-- the Standard's cut of a text without '?' at the authority's end, in the terms of the model's scans -/
theorem authCut (sp : Bool) (text : Bytes) (hnoq : (0x3F : UInt8) ∉ text) :
    ∃ A T', text = A ++ T' ∧ authorityEnd sp text = A.length ∧ AuthBytes sp A ∧ (0x3F : UInt8) ∉ T' ∧
      ∀ q, AuthTail sp (T' ++ qs q) := by
  obtain ⟨T', htext, hT'⟩ := takeWhile_split (fun b => !(b == 0x2F || (sp && b == 0x5C))) text
  refine ⟨_, T', htext, rfl, ?_, fun h => hnoq (by rw [htext]; simp [h]), fun q => ?_⟩
  · intro b hb
    have h1 := mem_takeWhile hb
    have h3 : (b == 0x3F) = false := by
      simpa using fun e : b = 0x3F => hnoq (e ▸ (List.takeWhile_prefix _).subset hb)
    cases sp
    · simpa [isHardDelim, h3] using h1
    · simpa [isHardDelim, h3] using h1
  · rcases hT' with rfl | ⟨c, t, rfl, hc⟩
    · cases q with
      | none => exact Or.inl rfl
      | some q => exact Or.inr ⟨0x3F, q, rfl, by cases sp <;> rfl⟩
    · refine Or.inr ⟨c, t ++ qs q, rfl, ?_⟩
      cases sp <;> simp [isHardDelim] at hc ⊢
      · simp [hc]
      · by_cases e : c = 0x2F
        · simp [e]
        · simp [hc e]

/-- AUTHORITY … QUERY = the Standard's authority state (and what follows it) on the same text -/
theorem afterSlashes_spec (idna : Idna) (sp : Bool) (scheme : Bytes) (hsp : isSpecialScheme scheme = sp)
    (text : Bytes) (q frag : Option Bytes) (hid : ∀ d, HP.IdnaAt idna d) (hnoq : (0x3F : UInt8) ∉ text)
    (hclean : ∀ v cr, authority sp (text ++ qs q) = some (v, cr) → BR.bracketOk sp v = true) :
    afterSlashes idna sp (getSchemeType scheme) scheme frag (text ++ qs q) =
      outOf ((fromAuthority idna scheme text).map (addQF q frag)) := by
  unfold afterSlashes fromAuthority
  obtain ⟨A, T', rfl, hend, hAb, hno', hT'⟩ := authCut sp text hnoq
  have hT := hT' q
  simp only [hsp, hend, List.take_left', List.drop_left']
  rw [List.append_assoc] at hclean ⊢
  rw [authority_spec sp A (T' ++ qs q) hAb hT] at hclean ⊢
  unfold parseAuthority
  by_cases hemp : ((splitCredentials A).1.isSome && (splitCredentials A).2.isEmpty) = true
  · simp [hemp, outOf]
  · simp only [hemp, Bool.false_eq_true, ↓reduceIte] at hclean ⊢
    rw [afterAuthority_spec idna sp scheme hsp _ _ T' q frag hid (fun b hb => hAb b (splitCredentials_sub A b hb)) hT hno'
      (hclean _ _ rfl)]
    cases parseHostPort idna scheme (splitCredentials A).2 with
    | none => rfl
    | some x => simp only [Option.map_some]; rw [specUrl_addQF scheme]

/-- SPECIAL_AUTHORITY_SLASHES … QUERY -/
theorem afterScheme_spec (idna : Idna) (scheme : Bytes) (hsp : isSpecialScheme scheme = true)
    (restp : Bytes) (q frag : Option Bytes) (hid : ∀ d, HP.IdnaAt idna d) (hnoq : (0x3F : UInt8) ∉ restp)
    (hclean : ∀ v cr, authority true (skipAuthoritySlashes (restp ++ qs q)) = some (v, cr) → BR.bracketOk true v = true) :
    afterScheme idna (getSchemeType scheme) scheme frag (restp ++ qs q) =
      outOf ((fromAuthority idna scheme (skipSlashes restp)).map (addQF q frag)) := by
  unfold afterScheme
  rw [skipAuthoritySlashes_eq, skipSlashes_qs] at hclean ⊢
  have hsub : ∀ b ∈ skipSlashes restp, b ∈ restp := fun b hb => (List.dropWhile_sublist _).subset hb
  exact afterSlashes_spec idna true scheme hsp _ q frag hid (fun h => hnoq (hsub _ h)) hclean


def schemeOf (input : Bytes) : Option Bytes :=
  (takeScheme (cutAt 0x3F (cutAt 0x23 (preprocess input)).1).1).map (·.1)

def inScope (input : Bytes) : Bool :=
  match schemeOf input with
  | none => true
  | some s => s != bFile

theorem takeScheme_suffix (s n r : Bytes) (h : takeScheme s = some (n, r)) : ∃ p, s = p ++ r :=
  let ⟨p, hp⟩ := takeScheme_split s n r h
  ⟨p ++ [0x3A], by rw [hp, List.append_assoc, List.singleton_append]⟩

theorem takeScheme_rest_sub (s n r : Bytes) (h : takeScheme s = some (n, r)) : ∀ b ∈ r, b ∈ s := by
  obtain ⟨p, hp⟩ := takeScheme_suffix s n r h
  intro b hb
  rw [hp]
  exact List.mem_append_right _ hb

theorem parse_addQF (idna : Idna) (input : Bytes) (base : Option Url) (d pre : Bytes) (frag query : Option Bytes)
    (hcf : cutAt 0x23 (preprocess input) = (d, frag)) (hcq : cutAt 0x3F d = (pre, query)) :
    parse idna input base = (parseCore idna base pre (preprocess input) query.isSome frag.isSome).map (addQF query frag) := by
  unfold parse
  simp only [hcf, hcq]
  cases parseCore idna base pre (preprocess input) query.isSome frag.isSome with
  | none => rfl
  | some u => cases query <;> cases frag <;> rfl

theorem preprocess_last (input : Bytes) : (preprocess input).getLast? ≠ some 0x20 := by
  intro e
  have := PC.preprocess_last input 0x20 e
  revert this
  decide

theorem encC0_pct (a : Bytes) : percentEncode inC0 (a ++ [0x25, 0x32, 0x30]) = percentEncode inC0 a ++ [0x25, 0x32, 0x30] := by
  have : percentEncode inC0 [0x25, 0x32, 0x30] = [0x25, 0x32, 0x30] := by decide
  simp only [Spec.percentEncode, List.flatMap_append] at this ⊢
  rw [this]

/-- OPAQUE_PATH and QUERY = the Standard's opaque path state (a space in front of '?' or '#' becomes %20) -/
theorem opaquePath_spec (scheme restp : Bytes) (q frag : Option Bytes) (hno : (0x3F : UInt8) ∉ restp)
    (hns : isSpecialScheme scheme = false) (hlast : restp.getLast? = some 0x20 → (q.isSome || frag.isSome) = true) :
    opaquePath scheme frag (restp ++ qs q) =
      .ok (UR.recOf (addQF q frag { scheme := scheme, isOpaque := true, opath := opaquePathState restp (q.isSome || frag.isSome) })) := by
  unfold opaquePath
  simp only [qs_eq, Cut.takeWhile_sfx _ restp q hno, Cut.rest_sfx]
  have hpath : (if restp.getLast? == some 0x20 then percentEncode inC0 (restp.dropLast ++ [0x25, 0x32, 0x30]) else percentEncode inC0 restp) =
      opaquePathState restp (q.isSome || frag.isSome) := by
    unfold opaquePathState
    by_cases hl : restp.getLast? = some 0x20
    · simp only [hl, beq_self_eq_true, ↓reduceIte, hlast hl, encC0_pct]
    · have hl' : (restp.getLast? == some 0x20) = false := by simpa using hl
      simp only [hl', Bool.false_eq_true, ↓reduceIte]
  rw [hpath]
  generalize opaquePathState restp (q.isSome || frag.isSome) = op
  cases q <;> cases frag <;>
    simp [addQF, UR.recOf, Url.isSpecial, hns, Url.pathSerialized, encodeQuery]

theorem afterSchemeNS_auth (idna : Idna) (scheme : Bytes) (frag : Option Bytes) (r : Bytes) :
    afterSchemeNS idna scheme frag (0x2F :: 0x2F :: r) = afterSlashes idna false 1 scheme frag r := rfl

theorem afterSchemeNS_path (idna : Idna) (scheme : Bytes) (frag : Option Bytes) (r : Bytes) (h : r.head? ≠ some 0x2F) :
    afterSchemeNS idna scheme frag (0x2F :: r) =
      .ok { scheme := scheme, special := false, username := [], password := [], host := none, port := none, path := (pathQ false 1 r).1,
            query := (pathQ false 1 r).2, hash := frag.map (percentEncode inFragment), opq := false } := by
  unfold afterSchemeNS
  split
  · rename_i heq
    injection heq with _ heq
    rw [heq] at h
    exact absurd rfl h
  · rename_i heq
    injection heq with _ heq
    subst heq
    rfl
  · rename_i h1 h2
    exact absurd rfl (h2 r)

theorem afterSchemeNS_opaque (idna : Idna) (scheme : Bytes) (frag : Option Bytes) (rest : Bytes) (h : rest.head? ≠ some 0x2F) :
    afterSchemeNS idna scheme frag rest = opaquePath scheme frag rest := by
  unfold afterSchemeNS
  split
  · exact absurd rfl h
  · exact absurd rfl h
  · rfl

theorem ty_file : getSchemeType bFile = 6 := by decide +kernel
theorem filePath_spec (r : Bytes) (q frag : Option Bytes) (hr : (0x3F : UInt8) ∉ r) :
    filePath frag (r ++ qs q) =
      .ok (UR.recOf (addQF q frag { scheme := bFile, host := some .empty, path := pathState bFile [] r })) := by
  unfold filePath
  rw [pathQ_spec true bFile 6 ⟨by decide, by decide⟩ r q hr]
  cases q <;> cases frag <;>
    simp [addQF, UR.recOf, Url.isSpecial, special_file, Url.pathSerialized, FP.pathText, Host.serialize, encodeQuery]

theorem finish_file (T' : Bytes) (q frag : Option Bytes) (hno : (0x3F : UInt8) ∉ T') (h : Host) :
    finish true 6 bFile {} frag h.serialize none (T' ++ qs q) =
      .ok (UR.recOf (addQF q frag { scheme := bFile, host := some h, path := pathStartState bFile T' })) := by
  have := finish_spec true bFile special_file none T' q frag hno h none
  rw [ty_file, specUrl_addQF] at this
  exact this

/-- FILE_HOST … QUERY = the Standard's file host state -/
theorem fileHost_spec (idna : Idna) (text : Bytes) (q frag : Option Bytes) (hid : ∀ d, HP.IdnaAt idna d)
    (hnoq : (0x3F : UInt8) ∉ text) (hnoh : (0x23 : UInt8) ∉ text) :
    ParseSpecial.fileHost idna frag (text ++ qs q) = outOf ((Spec.fileHost idna text).map (addQF q frag)) := by
  unfold ParseSpecial.fileHost Spec.fileHost
  obtain ⟨B, T', rfl, hend, hB, hnoT, hT⟩ := authCut true text hnoq
  have hbuf : (B ++ T' ++ qs q).takeWhile (fun c => !(c == 0x2F || c == 0x5C || c == 0x3F)) = B := by
    rw [List.append_assoc, takeWhile_prefix_stop _ B _ ((hT q).stop _ (fun c hc => by
      rcases BR.hard_cases true c hc with rfl | rfl | rfl <;> rfl))]
    exact takeWhile_eq_self _ B (fun b hb => by
      have := hard_facts true b (hB b hb)
      simp [this.1, this.2.1, this.2.2 rfl])
  have hBb : ∀ b ∈ B, b ≠ 0x2F ∧ b ≠ 0x5C ∧ b ≠ 0x3F ∧ b ≠ 0x23 := fun b hb =>
    have := hard_facts true b (hB b hb)
    ⟨this.1, this.2.2 rfl, this.2.1, fun e => hnoh (by simp [← e, hb])⟩
  simp only [hbuf, hend, List.take_left', List.drop_left', PP.driveLetter_eq B hBb]
  rw [List.append_assoc, List.drop_left]
  by_cases hdl : Spec.isWindowsDriveLetter B = true
  · simp only [hdl, ↓reduceIte, Option.map_some, outOf]
    rw [← List.append_assoc]
    exact filePath_spec (B ++ T') q frag hnoq
  · simp only [hdl, Bool.false_eq_true, ↓reduceIte]
    by_cases hemp : B.isEmpty = true
    · simp only [hemp, ↓reduceIte, Option.map_some, outOf]
      rw [(by simpa using hemp : B = [])]
      exact finish_file T' q frag hnoT .empty
    · simp only [hemp, Bool.false_eq_true, ↓reduceIte, parseHost_view idna true B (hid _), Bool.not_true]
      cases hh : hostParse idna B false with
      | none => simp [outOf]
      | some h =>
        simp only [Option.map_some, HP.viewH, outOf]
        rw [HS.serialize_localhost idna B h hh]
        by_cases hl : h = .domain bLocalhost
        · simp only [hl, beq_self_eq_true, ↓reduceIte]
          exact finish_file T' q frag hnoT .empty
        · simp only [(by simpa using hl : (h == Host.domain bLocalhost) = false), Bool.false_eq_true, ↓reduceIte]
          exact finish_file T' q frag hnoT h


/-- the last `match` of `Spec.parseCore` (a scheme that is not special) under a name; tied to it by the `rfl` in `PB.parseCore_some` -/
def nsSpec (idna : Idna) (scheme rest : Bytes) (fol : Bool) : Option Url :=
  match rest with
  | 0x2F :: 0x2F :: rest' => fromAuthority idna scheme rest'
  | 0x2F :: rest' => some { scheme := scheme, path := pathState scheme [] rest' }
  | _ => some { scheme := scheme, isOpaque := true, opath := opaquePathState rest fol }

theorem last_space_followed (input pre scheme restp : Bytes) (query frag : Option Bytes)
    (hs : preprocess input = pre ++ qs query ++ Cut.sfx 0x23 frag) (htp : takeScheme pre = some (scheme, restp)) :
    restp.getLast? = some 0x20 → (query.isSome || frag.isSome) = true := by
  intro hl
  cases query with
  | some _ => rfl
  | none =>
    cases frag with
    | some _ => rfl
    | none =>
      exfalso
      obtain ⟨pfx, hp⟩ := takeScheme_suffix pre scheme restp htp
      apply preprocess_last input
      simp only [qs, Cut.sfx, List.append_nil] at hs
      rw [hs, hp, List.getLast?_append, hl]
      rfl

theorem nsSpec_path (idna : Idna) (scheme r : Bytes) (fol : Bool) (h : r.head? ≠ some 0x2F) :
    nsSpec idna scheme (0x2F :: r) fol = some { scheme := scheme, path := pathState scheme [] r } := by
  unfold nsSpec
  split
  · rename_i heq
    injection heq with _ heq
    rw [heq] at h
    exact absurd rfl h
  · rename_i heq
    injection heq with _ heq
    subst heq
    rfl
  · rename_i h1 h2
    exact absurd rfl (h2 r)

theorem nsSpec_opaque (idna : Idna) (scheme rest : Bytes) (fol : Bool) (h : rest.head? ≠ some 0x2F) :
    nsSpec idna scheme rest fol = some { scheme := scheme, isOpaque := true, opath := opaquePathState rest fol } := by
  unfold nsSpec
  split
  · exact absurd rfl h
  · exact absurd rfl h
  · rfl

theorem head_qs (r : Bytes) (q : Option Bytes) (h : r.head? ≠ some 0x2F) : (r ++ qs q).head? ≠ some 0x2F := by
  cases r with
  | nil => cases q <;> simp [qs]
  | cons c t => exact h

/-- PATH_OR_AUTHORITY, AUTHORITY …, PATH, OPAQUE_PATH for a scheme that is not special -/
theorem afterSchemeNS_spec (idna : Idna) (scheme restp : Bytes) (query frag : Option Bytes) (hid : ∀ d, HP.IdnaAt idna d)
    (hns : isSpecialScheme scheme = false) (ht1 : getSchemeType scheme = 1) (hnoq' : (0x3F : UInt8) ∉ restp)
    (hlastAll : restp.getLast? = some 0x20 → (query.isSome || frag.isSome) = true)
    (hclAll : ∀ r2, restp = 0x2F :: 0x2F :: r2 → ∀ v cr, authority false (r2 ++ qs query) = some (v, cr) → BR.bracketOk false v = true) :
    afterSchemeNS idna scheme frag (restp ++ qs query) =
      outOf ((nsSpec idna scheme restp (query.isSome || frag.isSome)).map (addQF query frag)) := by
  have hf := Proto.type_facts scheme
  by_cases h0 : restp.head? = some 0x2F
  · obtain ⟨r1, rfl⟩ := List.head?_eq_some_iff.mp h0
    by_cases h1 : r1.head? = some 0x2F
    · obtain ⟨r2, rfl⟩ := List.head?_eq_some_iff.mp h1
      have := afterSlashes_spec idna false scheme hns r2 query frag hid (fun h => hnoq' (by simp [h])) (hclAll r2 rfl)
      rw [ht1] at this
      exact this
    · rw [List.cons_append, afterSchemeNS_path _ _ _ _ (head_qs r1 query h1), nsSpec_path _ _ _ _ h1,
        pathQ_spec false scheme 1 (ht1 ▸ ⟨hf.2.1, hf.1⟩) r1 query (fun h => hnoq' (List.mem_cons_of_mem _ h))]
      cases query <;> cases frag <;>
        simp [outOf, addQF, UR.recOf, Url.isSpecial, hns, Url.pathSerialized, FP.pathText]
  · rw [afterSchemeNS_opaque _ _ _ _ (head_qs restp query h0), nsSpec_opaque _ _ _ _ h0,
      opaquePath_spec scheme restp query frag hnoq' hns hlastAll]
    rfl

/-- the states behind "scheme:" for a scheme other than `file`, special or not, when a base (if any) plays no part -/
theorem afterSchemeAny_spec (idna : Idna) (scheme restp : Bytes) (query frag : Option Bytes) (hid : ∀ d, HP.IdnaAt idna d)
    (hnoq : (0x3F : UInt8) ∉ restp) (hlast : restp.getLast? = some 0x20 → (query.isSome || frag.isSome) = true)
    (hclean : ∀ text v cr, authText (getSchemeType scheme != 1) (restp ++ qs query) = some text →
      authority (getSchemeType scheme != 1) text = some (v, cr) → BR.bracketOk (getSchemeType scheme != 1) v = true) :
    (if getSchemeType scheme == 1 then afterSchemeNS idna scheme frag (restp ++ qs query)
     else afterScheme idna (getSchemeType scheme) scheme frag (restp ++ qs query)) =
      outOf ((if isSpecialScheme scheme then fromAuthority idna scheme (skipSlashes restp)
              else nsSpec idna scheme restp (query.isSome || frag.isSome)).map (addQF query frag)) := by
  have hf := Proto.type_facts scheme
  by_cases h1 : (getSchemeType scheme == 1) = true
  · have ht1 : getSchemeType scheme = 1 := by simpa using h1
    have hns : isSpecialScheme scheme = false := by rw [← hf.1, ht1]; rfl
    rw [hf.1, hns] at hclean
    simp only [h1, ↓reduceIte, hns, Bool.false_eq_true]
    exact afterSchemeNS_spec idna scheme restp query frag hid hns ht1 hnoq hlast
      (fun r2 hr2 v cr hv => hclean (r2 ++ qs query) v cr (by subst hr2; rfl) hv)
  · have hsp : isSpecialScheme scheme = true := by
      rw [← hf.1]
      simpa using h1
    rw [hf.1, hsp] at hclean
    simp only [h1, Bool.false_eq_true, ↓reduceIte, hsp]
    exact afterScheme_spec idna scheme hsp restp query frag hid hnoq (fun v cr hv => hclean _ v cr rfl hv)

theorem bracketClean_of_no_bracket (sp : Bool) : ∀ l : Bytes, (0x5B : UInt8) ∉ l → HS.bracketClean sp false l = true := by
  intro l
  induction l with
  | nil => intro _; rfl
  | cons c r ih =>
    intro h
    have hc := Cut.head_ne h
    have hr : (0x5B : UInt8) ∉ r := fun hm => h (List.mem_cons_of_mem _ hm)
    unfold HS.bracketClean
    split
    · rfl
    · simp only [hc, Bool.false_eq_true, ↓reduceIte]; exact ih hr

theorem authLoop_sub (sp : Bool) : ∀ (f : Nat) (v : Bytes) (st : Cred) (v' : Bytes) (st' : Cred),
    authLoop sp f v st = some (v', st') → List.Sublist v' v := by
  intro f
  induction f with
  | zero => intro v st v' st' h; simp [authLoop] at h
  | succ f ih =>
    intro v st v' st' h
    unfold authLoop at h
    simp only at h
    split at h
    · rename_i rest heq
      exact (ih _ _ _ _ h).trans ((List.sublist_cons_self _ _).trans (heq ▸ List.drop_sublist _ _))
    · split at h
      · cases h
      · injection h with h; injection h with h1 _; subst h1; exact List.Sublist.refl _

theorem authority_sub (sp : Bool) (v v' : Bytes) (st' : Cred) (h : authority sp v = some (v', st')) : List.Sublist v' v := by
  unfold authority at h
  split at h
  · injection h with h; injection h with h1 _; subst h1; exact List.Sublist.refl _
  · exact authLoop_sub sp _ _ _ _ _ h

theorem schemeScan_sub (d n r : Bytes) (h : schemeScan d = some (n, r)) : List.Sublist r d := by
  have h1 := schemeScan_spec d
  rw [h] at h1
  obtain ⟨p, hp⟩ := takeScheme_suffix d _ r h1
  exact hp ▸ List.sublist_append_right p r

theorem prep_sub (input : Bytes) : List.Sublist (prep input).1 input := by
  rw [prep_eq]
  have hpre : List.Sublist (preprocess input) input := by
    unfold preprocess dropWhileEnd
    refine List.filter_sublist.trans (.trans ?_ (List.dropWhile_sublist isC0OrSpace))
    simpa using (List.dropWhile_sublist isC0OrSpace (l := (input.dropWhile isC0OrSpace).reverse)).reverse
  refine .trans ?_ hpre
  conv => rhs; rw [(Cut.cutAt_split 0x23 (preprocess input)).1]
  exact List.sublist_append_left _ _

theorem authText_sub (sp : Bool) (rest text : Bytes) (h : authText sp rest = some text) : List.Sublist text rest := by
  unfold authText at h
  split at h
  · injection h with h
    subst h
    rw [skipAuthoritySlashes_eq]
    exact List.dropWhile_sublist _
  · split at h
    · injection h with h
      subst h
      exact (List.sublist_cons_self _ _).trans (List.sublist_cons_self _ _)
    · cases h

theorem hostStart_sub (input : Bytes) : List.Sublist (hostStart input) input := by
  unfold hostStart
  have hd := prep_sub input
  generalize (prep input).1 = d at hd
  cases hss : schemeScan d with
  | none => exact List.nil_sublist _
  | some nr =>
    obtain ⟨n, r⟩ := nr
    simp only
    split
    · exact List.nil_sublist _
    · cases hat : authText ((parseSchemeNoOverride n).1 != 1) r with
      | none => exact List.nil_sublist _
      | some text =>
        simp only
        cases ha : authority ((parseSchemeNoOverride n).1 != 1) text with
        | none => exact List.nil_sublist _
        | some vc => exact (authority_sub _ _ _ _ ha).trans ((authText_sub _ r text hat).trans ((schemeScan_sub d n r hss).trans hd))

theorem clean_of_no_bracket (input : Bytes) (h : (0x5B : UInt8) ∉ input) :
    BR.bracketOk (schemeSpecial input) (hostStart input) = true :=
  BR.bracketOk_of_clean _ _ (bracketClean_of_no_bracket _ _ (fun hm => h ((hostStart_sub input).subset hm)))

end AdaVerif.Lemmas.PS
