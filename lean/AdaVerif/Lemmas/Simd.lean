import AdaVerif.Model.Simd
/-
The 16-byte block loops of the SIMD kernels (`find_next_host_delimiter*`, `has_tabs_or_newline`), with their
overlapping tail load, compute what the scalar search computes, for every byte class.
-/
namespace AdaVerif.Lemmas
open AdaVerif AdaVerif.Model

theorem findIdx?_skip {s w : Bytes} {cls : UInt8 → Bool} (h : ∀ x ∈ s, cls x = false) :
    (s ++ w).findIdx? cls = (w.findIdx? cls).map (· + s.length) := by
  rw [List.findIdx?_append, List.findIdx?_eq_none_iff.mpr h]; simp

theorem scalarFind_skip (cls : UInt8 → Bool) (v : Bytes) (i k : Nat) (hk : i + k ≤ v.length)
    (h : ∀ x ∈ (v.drop i).take k, cls x = false) : scalarFind cls v i = scalarFind cls v (i + k) := by
  unfold scalarFind
  have hl : ((v.drop i).take k).length = k := by simp; omega
  rw [← List.take_append_drop k (v.drop i), findIdx?_skip h, hl, List.drop_drop]
  cases (v.drop (i + k)).findIdx? cls with
  | none => rfl
  | some j => simp; omega

/-- The block loop from `i` is the scalar search from `i`, provided the part of the last block that lies before `i`
    has no hit: that is all the overlapping tail load can see again. -/
theorem blockLoop_eq (cls : UInt8 → Bool) (v : Bytes) (h16 : 16 ≤ v.length) (f i : Nat) (hf : v.length ≤ i + 16 * f)
    (hw : ∀ x ∈ (v.take i).drop (v.length - 16), cls x = false) :
    blockLoop cls v f i = scalarFind cls v i := by
  induction f generalizing i with
  | zero => simp [blockLoop, scalarFind, List.drop_eq_nil_of_le (show v.length ≤ i by omega)]
  | succ f ih =>
    unfold blockLoop
    split
    · rename_i hb
      unfold blockHit
      cases hh : ((v.drop i).take 16).findIdx? cls with
      | some k =>
        simp only [scalarFind]
        rw [← List.take_append_drop 16 (v.drop i), List.findIdx?_append, hh]
        rfl
      | none =>
        have hB := List.findIdx?_eq_none_iff.mp hh
        rw [scalarFind_skip cls v i 16 (by omega) hB]
        apply ih (i + 16) (by omega)
        intro x hx
        rw [← List.take_append_drop i (v.take (i + 16)), List.take_take, Nat.min_eq_left (by omega),
          List.drop_take, List.drop_append] at hx
        rcases List.mem_append.mp hx with h | h
        · exact hw x h
        · exact hB x (by simpa using List.mem_of_mem_drop h)
    · split
      · rename_i hb hi
        -- the last block is the clean stretch before `i` followed by everything from `i` on
        have hsplit : (v.drop (v.length - 16)).take 16 = (v.take i).drop (v.length - 16) ++ v.drop i := by
          rw [List.take_of_length_le (by simp; omega), ← List.drop_append_of_le_length (by simp; omega),
            List.take_append_drop]
        have hl : ((v.take i).drop (v.length - 16)).length = i - (v.length - 16) := by simp; omega
        unfold blockHit scalarFind
        rw [hsplit, findIdx?_skip hw, hl]
        cases (v.drop i).findIdx? cls with
        | none => rfl
        | some k => simp; omega
      · rename_i hb hi
        simp [scalarFind, List.drop_eq_nil_of_le (Nat.le_of_not_lt hi)]

theorem blockFind_eq_scalar (cls : UInt8 → Bool) (v : Bytes) (loc : Nat) :
    blockFind cls v loc = scalarFind cls v loc := by
  unfold blockFind
  split
  · rfl
  · -- at the start nothing of the last block lies before `loc`
    apply blockLoop_eq cls v (by omega) v.length loc (by omega)
    rw [List.drop_eq_nil_of_le (by simp; omega)]
    simp

theorem loads_in_bounds (v : Bytes) (f i : Nat) (h16 : 16 ≤ v.length) :
    ∀ s ∈ loadOffsets v f i, s + 16 ≤ v.length := by
  induction f generalizing i with
  | zero => simp [loadOffsets]
  | succ f ih =>
    unfold loadOffsets
    split
    · intro s hs
      rcases List.mem_cons.mp hs with rfl | h
      · omega
      · exact ih (i + 16) s h
    · split
      · intro s hs; simp at hs; omega
      · simp

theorem blockHit_lt (cls : UInt8 → Bool) (v : Bytes) (s k : Nat) (h : blockHit cls v s = some k) :
    s + k < v.length := by
  unfold blockHit at h
  have := (List.findIdx?_eq_some_iff_getElem.mp h).1
  simp at this
  omega

theorem anyLoop_eq (cls : UInt8 → Bool) (v : Bytes) (f i : Nat) :
    anyLoop cls v f i = decide (blockLoop cls v f i < v.length) := by
  induction f generalizing i with
  | zero => simp [anyLoop, blockLoop]
  | succ f ih =>
    unfold anyLoop blockLoop
    split
    · cases hb : blockHit cls v i with
      | none => simp [ih]
      | some k =>
        have := blockHit_lt cls v i k hb
        simp [this]
    · split
      · cases hb : blockHit cls v (v.length - 16) with
        | none => simp
        | some k =>
          have := blockHit_lt cls v _ k hb
          simp [this]
      · simp

theorem scalarFind_lt_iff_any (cls : UInt8 → Bool) (v : Bytes) :
    decide (scalarFind cls v 0 < v.length) = v.any cls := by
  unfold scalarFind
  rw [List.drop_zero, ← List.findIdx?_isSome]
  cases h : v.findIdx? cls with
  | none => simp
  | some k => simp [(List.findIdx?_eq_some_iff_getElem.mp h).1]

theorem hasAny_eq (cls : UInt8 → Bool) (v : Bytes) : hasAny cls v = v.any cls := by
  unfold hasAny
  split
  · rfl
  · rename_i h
    rw [anyLoop_eq, blockLoop_eq cls v (by omega) _ 0 (by omega) (by simp), scalarFind_lt_iff_any]

end AdaVerif.Lemmas
