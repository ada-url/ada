import AdaVerif.Model.HostParse
import AdaVerif.Lemmas.Kern4
import AdaVerif.Lemmas.KernIs4
import AdaVerif.Lemmas.Kern6Main
import AdaVerif.Lemmas.Kern6Ser
import AdaVerif.Lemmas.HostCanon
import AdaVerif.Lemmas.FastSpec
import AdaVerif.Lemmas.FastNumber
import AdaVerif.Props.C11
import AdaVerif.Lemmas.HostCodePoints
import AdaVerif.Lemmas.ListFacts
/-
`url::parse_host` and `url_aggregator::parse_host` (Model/HostParse.lean) are the Standard's host parser: same failures,
same host text, and `host_type` says which kind of host the Standard's parser produced.
-/
namespace AdaVerif.Lemmas.HP
open AdaVerif AdaVerif.Spec AdaVerif.Lemmas AdaVerif.Model.HostKernels AdaVerif.Model.HostParse AdaVerif.Model.FastScan

/-- what `try_parse_ipv4_fast` accepts is an IPv4 address whose serialisation is the text itself (without a trailing dot) -/
theorem fast_text (t : Bytes) (ip : Nat) (h : ipv4Decimal t = some ip) :
    ∃ a, ipv4Parse t = some a ∧ ipv4Serialize a = (if t.getLast? == some 0x2E then t.dropLast else t) := by
  obtain ⟨da, db, dc, dd, va, vb, vc, vd, tail, ht, htail, g1, g2, g3, g4, ne4, n1, n2, n3, n4, l1, l2, l3, l4, hz⟩ :=
    FS.ipv4Decimal_shape t ip h
  have pure : ∀ ds ∈ [da, db, dc, dd], (∀ b ∈ ds, isAsciiDigit b = true) → K4.pureDec ds = true := by
    intro ds hm hd
    simp only [K4.pureDec, Bool.and_eq_true, List.all_eq_true, Bool.not_eq_true']
    refine ⟨hd, ?_⟩
    match ds, hz ds hm with
    | [], _ => rfl
    | [_], _ => rfl
    | c :: x :: r, hc => exact beq_false_of_ne (hc c x r rfl)
  have u1 := pure da (by simp) g1
  have u2 := pure db (by simp) g2
  have u3 := pure dc (by simp) g3
  have u4 := pure dd (by simp) g4
  have nodot : ∀ ds : Bytes, (∀ b ∈ ds, isAsciiDigit b = true) → (0x2E : UInt8) ∉ ds := fun ds hd hm => by
    have := hd _ hm; simp [isAsciiDigit] at this
  have hfront : ([va, vb, vc].any fun x => decide (x > 255)) = false := by
    simp only [List.any_cons, List.any_nil, Bool.or_false, Bool.or_eq_false_iff, decide_eq_false_iff_not]; omega
  have hlast : ¬ vd ≥ 256 ^ (5 - 4) := by simp; omega
  have hspec : K4.specParts [da, db, dc, dd] = some (ipv4Parse.go [va, vb, vc] 0 vd) := by
    simp [K4.specParts, n1, n2, n3, n4, hfront, hlast]
  have hpc : K4.pcSum [da, db, dc, dd] = 4 := by simp [K4.pcSum, K4.pc1, u1, u2, u3, u4]
  have htext := K4.pc4_text [da, db, dc, dd] _ hspec hpc
  have hjoin : joinWith 0x2E [da, db, dc, dd] = da ++ 0x2E :: (db ++ 0x2E :: (dc ++ 0x2E :: dd)) := by simp [joinWith]
  have hbody : (da ++ 0x2E :: (db ++ 0x2E :: (dc ++ 0x2E :: dd))).getLast? ≠ some 0x2E := by
    have : da ++ 0x2E :: (db ++ 0x2E :: (dc ++ 0x2E :: dd)) = (da ++ 0x2E :: (db ++ 0x2E :: (dc ++ [0x2E]))) ++ dd := by simp
    rw [this, List.getLast?_append]
    cases hdl : dd.getLast? with
    | none => exact absurd (List.getLast?_eq_none_iff.mp hdl) ne4
    | some x =>
      have : x ≠ 0x2E := fun e => nodot dd g4 (e ▸ List.mem_of_getLast? hdl)
      simpa using this
  refine ⟨ipv4Parse.go [va, vb, vc] 0 vd, ?_, ?_⟩
  · rw [K4.ipv4Parse_parts]
    rcases htail with rfl | rfl
    · have hsp : splitOn 0x2E t = [da, db, dc, dd] := by
        rw [ht, List.append_nil, splitOn_append _ _ _ (nodot da g1), splitOn_append _ _ _ (nodot db g2),
          splitOn_append _ _ _ (nodot dc g3), splitOn_no_sep _ _ (nodot dd g4)]
      have hne : (some dd == some ([] : Bytes)) = false := by simpa using ne4
      simp [hsp, hne, hspec]
    · have hsp : splitOn 0x2E t = [da, db, dc, dd, []] := by
        rw [ht, splitOn_append _ _ _ (nodot da g1), splitOn_append _ _ _ (nodot db g2),
          splitOn_append _ _ _ (nodot dc g3), splitOn_append _ _ _ (nodot dd g4)]
        rfl
      simp [hsp, hspec]
  · rw [← htext, hjoin]
    rcases htail with rfl | rfl
    · rw [List.append_nil] at ht
      rw [← ht] at hbody ⊢
      have : (t.getLast? == some 0x2E) = false := by simpa using hbody
      simp [this]
    · have ht' : t = (da ++ 0x2E :: (db ++ 0x2E :: (dc ++ 0x2E :: dd))) ++ [0x2E] := by rw [ht]; simp
      generalize da ++ 0x2E :: (db ++ 0x2E :: (dc ++ 0x2E :: dd)) = B at ht' ⊢
      rw [ht', List.getLast?_concat]
      simp [List.dropLast_concat]

theorem containsForbiddenDomain_fold (l : Bytes) (acc : Nat) : containsForbiddenDomain l acc =
    (l.foldl (fun acc x => acc ||| tget Gen.forbiddenDomainTable x.toNat) acc != 0) := by
  fun_induction containsForbiddenDomain l acc with
  | case1 a b c d rest acc ih => rw [ih]; rfl
  | case2 l acc hne => rfl

theorem containsForbiddenOrUpper_fold (l : Bytes) (acc : Nat) : containsForbiddenOrUpper l acc =
    l.foldl (fun acc x => acc ||| tget Gen.forbiddenDomainOrUpperTable x.toNat) acc := by
  fun_induction containsForbiddenOrUpper l acc with
  | case1 a b c d rest acc ih => rw [ih]; rfl
  | case2 l acc hne => rfl

theorem containsForbiddenDomain_any (l : Bytes) : containsForbiddenDomain l 0 = l.any isForbiddenDomainCp := by
  rw [containsForbiddenDomain_fold, foldOr_ne_zero]; rfl

theorem containsForbiddenOrUpper_eq (l : Bytes) : containsForbiddenOrUpper l 0 =
    (if l.any isAsciiUpper then 2 else 0) ||| (l.any isForbiddenDomainCp).toNat := by
  have key : ∀ acc, l.foldl (fun acc x => acc ||| tget Gen.forbiddenDomainOrUpperTable x.toNat) acc =
      acc ||| ((if l.any isAsciiUpper then 2 else 0) ||| (l.any isForbiddenDomainCp).toNat) := by
    induction l with
    | nil => simp
    | cons x t ih =>
      intro acc
      rw [List.foldl_cons, ih, Nat.or_assoc, orUpper_eq, List.any_cons, List.any_cons]
      congr 1
      cases hu : isAsciiUpper x
      · cases isForbiddenDomainCp x <;> cases t.any isAsciiUpper <;> cases t.any isForbiddenDomainCp <;> rfl
      · rw [(upper_facts x hu).1]
        cases t.any isAsciiUpper <;> cases t.any isForbiddenDomainCp <;> rfl
  rw [containsForbiddenOrUpper_fold, key, Nat.zero_or]

theorem any_domainCp_lower (l : Bytes) : (l.map toLowerByte).any isForbiddenDomainCp = l.any isForbiddenDomainCp := by
  rw [List.any_map]; congr 1; funext b; exact domainCp_lower b

theorem parseHostA_eq (idna : Idna) (special : Bool) (input : Bytes) : parseHostA idna special input = parseHost idna special input := by
  unfold parseHostA parseHost
  simp only [containsForbiddenOrUpper_eq, containsForbiddenDomain_any, any_domainCp_lower]
  cases hU : input.any isAsciiUpper
  · -- no upper-case letter: the text is its own lower-case copy, and the scan value is 0 or 1
    rw [map_eq_self toLowerByte input fun b hb => Lower.of_not_upper b (by simpa using List.any_eq_false.mp hU b hb)]
    cases input.any isForbiddenDomainCp <;> simp
  · -- some upper-case letter: the scan value is 2 (the lower-casing route) or 3 (`to_ascii`)
    cases input.any isForbiddenDomainCp <;> simp

theorem hasXn_prefix (p : Bytes) (r : Bytes) : hasXnDash (p ++ 0x78 :: 0x6E :: 0x2D :: r) = true := by
  induction p with
  | nil => simp [hasXnDash]
  | cons a t ih =>
    cases t with
    | nil => simp only [List.cons_append, List.nil_append] at ih ⊢; unfold hasXnDash; simp [ih]
    | cons b t' =>
      cases t' with
      | nil => simp only [List.cons_append, List.nil_append] at ih ⊢; unfold hasXnDash; simp [ih]
      | cons c t'' => simp only [List.cons_append] at ih ⊢; unfold hasXnDash; simp [ih]

theorem mem_join_infix (sep : UInt8) (parts : List Bytes) (l : Bytes) (h : l ∈ parts) :
    ∃ p q, joinWith sep parts = p ++ l ++ q := by
  induction parts with
  | nil => cases h
  | cons a rest ih =>
    cases rest with
    | nil =>
      simp only [List.mem_singleton] at h; subst h
      exact ⟨[], [], by simp [joinWith]⟩
    | cons b rest' =>
      simp only [List.mem_cons] at h
      rcases h with rfl | h
      · exact ⟨[], sep :: joinWith sep (b :: rest'), by simp [joinWith]⟩
      · obtain ⟨p, q, e⟩ := ih (by simpa using h)
        exact ⟨a ++ sep :: p, q, by simp [joinWith, e]⟩

theorem noxn_of_scan (s : Bytes) (h : hasXnDash (s.map toLowerByte) = false) : (splitOn 0x2E s).any startsWithXn = false := by
  cases hx : (splitOn 0x2E s).any startsWithXn with
  | false => rfl
  | true =>
    exfalso
    obtain ⟨l, hl, hst⟩ := List.any_eq_true.mp hx
    obtain ⟨p, q, e⟩ := mem_join_infix 0x2E _ l hl
    rw [FS.join_split] at e
    unfold startsWithXn at hst
    split at hst
    · rename_i a b c d r
      simp only [Bool.and_eq_true, beq_iff_eq] at hst
      obtain ⟨⟨⟨ha, hb⟩, hc⟩, hd⟩ := hst
      subst hc
      have e1 : toLowerByte a = 0x78 := by
        rcases (by simpa using ha : a = 0x78 ∨ a = 0x58) with rfl | rfl <;> decide
      have e2 : toLowerByte b = 0x6E := by
        rcases (by simpa using hb : b = 0x6E ∨ b = 0x4E) with rfl | rfl <;> decide
      have e3 : toLowerByte 0x2D = 0x2D := by decide
      have : s.map toLowerByte = p.map toLowerByte ++ 0x78 :: 0x6E :: 0x2D :: (toLowerByte d :: r.map toLowerByte ++ q.map toLowerByte) := by
        rw [e]; simp [e1, e2, e3]
      rw [this, hasXn_prefix] at h
      cases h
    · cases hst

theorem decode_model (input : Bytes) : Model.percentDecode input (findPercent input) = Spec.percentDecode input := by
  have hpre := List.takeWhile_prefix (p := (· != 0x25)) (l := input)
  have hall : ∀ b ∈ input.takeWhile (· != 0x25), b ≠ 0x25 := fun b hb => by simpa using mem_takeWhile hb
  unfold findPercent
  simp only
  split
  · apply Props.C11.decoder_from_first_percent
    rwa [← List.prefix_iff_eq_take.mp hpre]
  · rw [hpre.eq_of_length (by have := hpre.length_le; omega)] at hall
    exact (percentDecode_no_pct _ hall).symm

/-- `host_type` of a host of the Standard: 1 = IPv4, 2 = IPv6, 0 = anything else -/
def kindOf : Host → Nat
  | .ipv4 _ => 1
  | .ipv6 _ => 2
  | _ => 0
/-- what the C++ object stores for a host of the Standard: its serialisation and its kind -/
def viewH (h : Host) : Bytes × Nat := (h.serialize, kindOf h)

/-- what is assumed of `ada::idna::to_ascii` at the one domain it is asked about (the fixed-point theorems assume
    `HC.IdnaStable` instead, for all domains; neither is derived from the other): ASCII lower-case output, and the URL
    Standard's rule that an all-ASCII domain without an ACE label is just lower-cased (decided per input by C06) -/
structure IdnaAt (idna : Idna) (d : Bytes) : Prop where
  asciiOut : ∀ o, idna.toAscii d = some o → ∀ b ∈ o, b.toNat < 128
  lowerOut : ∀ o, idna.toAscii d = some o → ∀ b ∈ o, isAsciiUpper b = false
  asciiRule : isAsciiBytes d = true → (splitOn 0x2E d).any startsWithXn = false → idna.toAscii d = some (d.map toLowerByte)

theorem parseIpv4_after (s : Bytes) (hs : s ≠ []) (hlow : ∀ b ∈ s, isAsciiUpper b = false) (h : isIpv4 s = true) :
    parseIpv4 s = (ipv4Parse s).map ipv4Serialize := by
  apply K4.parseIpv4_eq
  intro hdot
  rw [K4.isIpv4_eq s hs hlow, K4.endsInANumber_view s _ hs rfl] at h
  generalize (if s.getLast? == some 0x2E then s.dropLast else s) = view at hdot h
  split at h; · cases h
  have hv := FS.snoc_of_getLast? view 0x2E hdot
  rw [hv, K4.splitOn_snoc_sep] at h
  simp [K4.decision_nil] at h

theorem ipv4OrDomain_spec (host : Bytes) (hne : host ≠ []) (hlow : ∀ b ∈ host, isAsciiUpper b = false) :
    ipv4OrDomain host = (if endsInANumber host then (ipv4Parse host).map Host.ipv4 else some (.domain host)).map viewH := by
  unfold ipv4OrDomain
  rw [K4.isIpv4_eq host hne hlow]
  by_cases he : endsInANumber host = true
  · have hi : isIpv4 host = true := by rw [K4.isIpv4_eq host hne hlow]; exact he
    simp only [he, ↓reduceIte, parseIpv4_after host hne hlow hi]
    cases ipv4Parse host <;> simp [viewH, kindOf, Host.serialize]
  · simp [he, viewH, kindOf, Host.serialize]

theorem hasXn_needs_x (s : Bytes) (h : ∀ b ∈ s, b ≠ 0x78) : hasXnDash s = false := by
  match s with
  | [] => rfl
  | [_] => rfl
  | [_, _] => rfl
  | a :: b :: c :: rest =>
    unfold hasXnDash
    have ha : (a == 0x78) = false := by simpa using h a (by simp)
    simp only [ha, Bool.false_and, Bool.false_or]
    exact hasXn_needs_x (b :: c :: rest) (fun x hx => h x (by simp [hx]))

theorem hostText_of_scan (input : Bytes) (hne : input ≠ []) (hclean : input.any isForbiddenDomainCp = false)
    (hxn : hasXnDash (input.map toLowerByte) = false) : FS.HostText input := by
  have hb : ∀ b ∈ input, isForbiddenDomain b = false ∧ b.toNat < 128 := by
    intro b hbm
    have := (List.any_eq_false.mp hclean) b hbm
    rw [domainCp_eq] at this
    simp only [Bool.not_eq_true, Bool.or_eq_false_iff, decide_eq_false_iff_not] at this
    exact ⟨this.1, by omega⟩
  exact ⟨hne, fun b hbm => (hb b hbm).2, fun b hbm => (hb b hbm).1, noxn_of_scan input hxn⟩

theorem hostParse_plain (idna : Idna) (c : UInt8) (rest : Bytes) (hc : c ≠ 0x5B) (opq : Bool) :
    hostParse idna (c :: rest) opq =
      if opq then opaqueHostParse (c :: rest)
      else match domainToAscii idna (Spec.percentDecode (c :: rest)) with
        | none => none
        | some ascii =>
          if ascii.any isForbiddenDomain then none
          else if endsInANumber ascii then (ipv4Parse ascii).map Host.ipv4
          else some (.domain ascii) := by
  unfold hostParse
  split
  · rename_i r heq; injection heq with e _; exact absurd e hc
  · rfl

theorem bracket_route (idna : Idna) (rest : Bytes) (opq : Bool) :
    (if (0x5B :: rest : Bytes).getLast? != some 0x5D then none
      else (parseIpv6 ((0x5B :: rest : Bytes).drop 1).dropLast).map (fun a => (serIpv6 a, 2))) =
      (hostParse idna (0x5B :: rest) opq).map viewH := by
  unfold hostParse
  cases rest with
  | nil => simp
  | cons r rs =>
    simp only [List.getLast?_cons_cons, List.drop_succ_cons, List.drop_zero]
    by_cases hlast : ((r :: rs).getLast? != some 0x5D) = true
    · simp [hlast]
    · simp only [hlast, Bool.false_eq_true, ↓reduceIte, K6.parseIpv6_eq]
      cases hp : ipv6Parse (r :: rs).dropLast with
      | none => simp
      | some a =>
        obtain ⟨h8, hb⟩ := HC.ipv6Parse_shape _ a hp
        simp [viewH, kindOf, Host.serialize, K6.serIpv6_eq a h8 hb]

theorem opaque_route (input : Bytes) : (parseOpaqueHost input).map (fun h => (h, 0)) = (opaqueHostParse input).map viewH := by
  unfold parseOpaqueHost opaqueHostParse
  rw [funext hostCp_eq]
  cases input.any isForbiddenHost <;> simp [viewH, kindOf, Host.serialize]

theorem clean_route (idna : Idna) (input : Bytes) (hT : FS.HostText input) :
    ipv4OrDomain (input.map toLowerByte) = (hostParse idna input false).map viewH := by
  rw [FS.hostParse_ascii idna input hT]
  apply ipv4OrDomain_spec
  · simpa using hT.ne
  · intro b hbm
    obtain ⟨x, _, rfl⟩ := List.mem_map.mp hbm
    exact Lower.not_upper x

theorem decimal_route (idna : Idna) (input : Bytes) (hne : input ≠ []) (hf : (ipv4Fast input).isSome = true) :
    some (if input.getLast? == some 0x2E then input.dropLast else input, 1) = (hostParse idna input false).map viewH := by
  obtain ⟨ip, hip⟩ : ∃ ip, ipv4Decimal input = some ip := by
    unfold ipv4Fast at hf
    split at hf
    · simp at hf
    · exact Option.isSome_iff_exists.mp hf
  obtain ⟨a, hpa, hser⟩ := fast_text _ ip hip
  obtain ⟨hend, _, hbytes⟩ := FS.ipv4Decimal_sound _ ip hip
  have hdd : ∀ b ∈ input, b.toNat < 0x80 ∧ toLowerByte b = b ∧ isForbiddenDomain b = false ∧ b ≠ 0x78 := fun b hbm => by
    obtain ⟨_, hascii, hlow, hclean, _, hx, _⟩ := dd_facts b (hbytes b hbm)
    exact ⟨hascii, hlow, hclean, hx⟩
  have hlowid : input.map toLowerByte = input := map_eq_self _ _ fun b hbm => (hdd b hbm).2.1
  have hT : FS.HostText input := ⟨hne, fun b hbm => (hdd b hbm).1, fun b hbm => (hdd b hbm).2.2.1,
    noxn_of_scan input (by rw [hlowid]; exact hasXn_needs_x _ fun b hbm => (hdd b hbm).2.2.2)⟩
  rw [FS.hostParse_ascii idna input hT, hlowid, hend]
  simp [hpa, viewH, kindOf, Host.serialize, hser]

theorem toAscii_route (idna : Idna) (c : UInt8) (rest : Bytes) (hc : c ≠ 0x5B) (hid : IdnaAt idna (Spec.percentDecode (c :: rest))) :
    (match toAscii idna (c :: rest) (findPercent (c :: rest)) with
      | none => none
      | some host => if host.any isForbiddenDomainCp then none else ipv4OrDomain host) =
      (hostParse idna (c :: rest) false).map viewH := by
  rw [hostParse_plain idna c rest hc]
  unfold Model.HostParse.toAscii domainToAscii
  simp only [decode_model, Bool.false_eq_true, ↓reduceIte]
  generalize Spec.percentDecode (c :: rest) = d at hid
  have hrule : (if (isAsciiBytes d && !(splitOn 0x2E d).any startsWithXn) = true then some (d.map toLowerByte) else idna.toAscii d) =
      idna.toAscii d := by
    split
    · rename_i hcond
      simp only [Bool.and_eq_true, Bool.not_eq_true'] at hcond
      rw [hid.asciiRule hcond.1 hcond.2]
    · rfl
  rw [hrule]
  cases hto : idna.toAscii d with
  | none => rfl
  | some o =>
    simp only
    have hforb : o.any isForbiddenDomainCp = o.any isForbiddenDomain := by
      apply any_ext
      intro b hbm
      have := hid.asciiOut o hto b hbm
      rw [domainCp_eq, show decide (b.toNat ≥ 128) = false by simp; omega, Bool.or_false]
    cases hoe : o.isEmpty
    case true => rfl
    simp only [Bool.false_or, containsForbiddenDomain_any, hforb, Bool.false_eq_true, ↓reduceIte]
    cases hfd : o.any isForbiddenDomain
    case true => rfl
    simp only [Bool.false_eq_true, ↓reduceIte, hforb, hfd]
    exact ipv4OrDomain_spec o (by intro e; subst e; simp at hoe) (hid.lowerOut o hto)

theorem parseHost_eq (idna : Idna) (special : Bool) (input : Bytes) (hne : input ≠ [])
    (hid : IdnaAt idna (Spec.percentDecode input)) :
    parseHost idna special input = (hostParse idna input (!special)).map viewH := by
  unfold parseHost
  cases input with
  | nil => exact absurd rfl hne
  | cons c rest =>
  simp only [List.isEmpty_cons, Bool.false_eq_true, ↓reduceIte, List.head?_cons]
  by_cases hc : c = 0x5B
  · subst hc
    simp only [beq_self_eq_true, ↓reduceIte]
    exact bracket_route idna rest _
  have hcb : (some c == some (0x5B : UInt8)) = false := by simpa using hc
  simp only [hcb, Bool.false_eq_true, ↓reduceIte]
  cases special
  · simp only [Bool.not_false, ↓reduceIte, hostParse_plain idna c rest hc]
    exact opaque_route _
  simp only [Bool.not_true, Bool.false_eq_true, ↓reduceIte]
  by_cases hf : (ipv4Fast (c :: rest)).isSome = true
  · simp only [hf, ↓reduceIte]
    exact decimal_route idna _ hne hf
  simp only [hf, Bool.false_eq_true, ↓reduceIte, containsForbiddenDomain_any, any_domainCp_lower]
  by_cases hfast : (!(c :: rest).any isForbiddenDomainCp && !hasXnDash ((c :: rest).map toLowerByte)) = true
  · simp only [hfast, ↓reduceIte]
    simp only [Bool.and_eq_true, Bool.not_eq_true'] at hfast
    exact clean_route idna _ (hostText_of_scan _ hne hfast.1 hfast.2)
  · simp only [hfast, Bool.false_eq_true, ↓reduceIte]
    exact toAscii_route idna c rest hc hid

end AdaVerif.Lemmas.HP
