import AdaVerif.Lemmas.Ipv6
import AdaVerif.Lemmas.Kern4
/-
C10: pieces of `parse_ipv6` against the Standard's IPv6 parser: the hex piece reader, the embedded IPv4 piece
reader and the final move of the pieces behind `::`.
-/
namespace AdaVerif.Lemmas.K6
open AdaVerif AdaVerif.Spec AdaVerif.Lemmas AdaVerif.Model.HostKernels AdaVerif.Model.FastScan

theorem nibble_cases (b : UInt8) : (isAsciiHexDigit b = true ∧ hexNibble b = hexVal b ∧ (hexNibble b == 0xff) = false) ∨
    (isAsciiHexDigit b = false ∧ (hexNibble b == 0xff) = true) := by
  have nf := K4.digitTables b
  have hex : isAsciiHexDigit b = true ↔ hexNibble b ≠ 0xff := nf.hex
  cases h : isAsciiHexDigit b with
  | true => exact Or.inl ⟨rfl, (nf.hexVal h).1, by simpa using hex.mp h⟩
  | false =>
    have : hexNibble b = 0xff := Decidable.byContradiction (fun hc => by have := hex.mpr hc; rw [h] at this; cases this)
    exact Or.inr ⟨rfl, by simp [this]⟩

theorem parseHexPiece_eq (p : Bytes) : parseHexPiece p = readHex 4 p := by
  -- digit by digit; at a byte that is not a hex digit (`inr`) both readers stop
  unfold parseHexPiece
  match p with
  | [] => rfl
  | c0 :: r0 =>
    rcases nibble_cases c0 with ⟨h0, v0, n0⟩ | ⟨h0, n0⟩
    case inr => simp only [readHex, h0, n0, Bool.false_eq_true, ↓reduceIte]
    simp only [readHex, h0, n0, Bool.false_eq_true, ↓reduceIte]
    match r0 with
    | [] => simp [readHex, v0]
    | c1 :: r1 =>
      rcases nibble_cases c1 with ⟨h1, v1, n1⟩ | ⟨h1, n1⟩
      case inr => simp only [readHex, h1, n1, Bool.false_eq_true, ↓reduceIte, v0, Nat.zero_mul, Nat.zero_add]
      simp only [readHex, h1, n1, Bool.false_eq_true, ↓reduceIte, v0, Nat.zero_mul, Nat.zero_add]
      match r1 with
      | [] => simp [readHex, v1]
      | c2 :: r2 =>
        rcases nibble_cases c2 with ⟨h2, v2, n2⟩ | ⟨h2, n2⟩
        case inr => simp only [readHex, h2, n2, Bool.false_eq_true, ↓reduceIte, v1]
        simp only [readHex, h2, n2, Bool.false_eq_true, ↓reduceIte, v1]
        match r2 with
        | [] => simp [readHex, v2]
        | c3 :: r3 =>
          rcases nibble_cases c3 with ⟨h3, v3, n3⟩ | ⟨h3, n3⟩
          case inr => simp only [readHex, h3, n3, Bool.false_eq_true, ↓reduceIte, v2]
          simp only [readHex, h3, n3, Bool.false_eq_true, ↓reduceIte, v2]
          rw [v3]

/-- the Standard's list of pieces as the code's array: a zero piece is reserved where `::` was seen -/
def expand (pieces : List Nat) (comp : Option Nat) : List Nat :=
  match comp with
  | none => pieces
  | some k => pieces.take k ++ 0 :: pieces.drop k

def pad8 (l : List Nat) : List Nat := l ++ List.replicate (8 - l.length) 0

theorem setAt_mid (l : List Nat) (x v : Nat) (r : List Nat) : setAt (l ++ x :: r) l.length v = l ++ v :: r := by
  simp [setAt]
theorem getAt_mid (l : List Nat) (x : Nat) (r : List Nat) : getAt (l ++ x :: r) l.length = x := by
  simp [getAt]

/-- the move loop carries a block `X` over a gap of `g + 1` zeros, last element first, and leaves zeros behind -/
theorem moveLoop_shift (P : List Nat) (g n : Nat) (X S : List Nat) (hn : X.length = n) :
    moveLoop n (P ++ X ++ List.replicate (g + 1) 0 ++ S) (P.length + (g + 1)) P.length =
      P ++ List.replicate (g + 1) 0 ++ X ++ S := by
  induction n generalizing X S with
  | zero =>
    have : X = [] := List.eq_nil_of_length_eq_zero hn
    simp [this, moveLoop]
  | succ n ih =>
    have hne : X ≠ [] := by intro e; simp [e] at hn
    obtain ⟨Y, x, rfl⟩ : ∃ Y x, X = Y ++ [x] := ⟨_, _, (List.dropLast_concat_getLast hne).symm⟩
    have hY : Y.length = n := by simpa using hn
    have h1 : P ++ (Y ++ [x]) ++ List.replicate (g + 1) 0 ++ S = (P ++ Y ++ x :: List.replicate g 0) ++ 0 :: S := by
      simp [List.replicate_succ']
    have h2 : P ++ Y ++ x :: List.replicate g 0 ++ x :: S = (P ++ Y) ++ x :: (List.replicate g 0 ++ x :: S) := by simp
    have h3 : (P ++ Y) ++ 0 :: (List.replicate g 0 ++ x :: S) = P ++ Y ++ List.replicate (g + 1) 0 ++ x :: S := by
      simp [List.replicate_succ]
    have i1 : P.length + (g + 1) + n = (P ++ Y ++ x :: List.replicate g 0).length := by simp [hY]; omega
    have i2 : P.length + n = (P ++ Y).length := by simp [hY]
    have hget : getAt (P ++ (Y ++ [x]) ++ List.replicate (g + 1) 0 ++ S) (P.length + n) = x := by
      rw [show P ++ (Y ++ [x]) ++ List.replicate (g + 1) 0 ++ S = (P ++ Y) ++ x :: (List.replicate (g + 1) 0 ++ S) by simp, i2]
      exact getAt_mid _ _ _
    rw [moveLoop, hget, h1, i1, setAt_mid, h2, i2, setAt_mid, h3, ih Y _ hY]
    simp

/-- the end of `parse_ipv6` after a `::`: the pieces behind it move to the end of the array -/
theorem finC_some (P X : List Nat) (hlen : P.length + X.length ≤ 7) :
    finC (pad8 (P ++ 0 :: X)) (P.length + 1 + X.length) (some (P.length + 1)) =
      some (P ++ List.replicate (8 - (P.length + X.length)) 0 ++ X) := by
  have hr : P.length + 1 + X.length - (P.length + 1) = X.length := by omega
  have hpad : pad8 (P ++ 0 :: X) = P ++ [0] ++ X ++ List.replicate (7 - (P.length + X.length)) 0 := by
    have hl : (P ++ 0 :: X).length = P.length + X.length + 1 := by simp; omega
    rw [pad8, hl, show 8 - (P.length + X.length + 1) = 7 - (P.length + X.length) by omega]
    simp
  have hrep : 8 - (P.length + X.length) = (7 - (P.length + X.length)) + 1 := by omega
  simp only [finC, hr, hpad, hrep]
  by_cases hX : X.length > 0
  · by_cases h7 : P.length + X.length = 7
    · have : (8 - X.length != P.length + 1) = false := by simp; omega
      simp [hX, this, h7]
    · obtain ⟨g, hg⟩ : ∃ g, 7 - (P.length + X.length) = g + 1 := ⟨6 - (P.length + X.length), by omega⟩
      have hdest : 8 - X.length = (P ++ [0]).length + (g + 1) := by simp; omega
      have hsrc : P.length + 1 = (P ++ [0]).length := by simp
      simp only [hX, ↓reduceIte, hg, hdest]
      rw [hsrc, ← List.append_nil (_ ++ List.replicate (g + 1) 0), moveLoop_shift _ _ _ _ _ rfl]
      simp [List.replicate_succ]
  · have : X = [] := List.eq_nil_of_length_eq_zero (by omega)
    simp [this, List.replicate_succ]

theorem finC_expand_some (pieces : List Nat) (k : Nat) (hk : k ≤ pieces.length) (hlen : pieces.length ≤ 7) :
    finC (pad8 (expand pieces (some k))) (expand pieces (some k)).length (some (k + 1)) = V6.finish (some (pieces, some k)) := by
  have hP : (pieces.take k).length = k := by simp; omega
  have hX : (pieces.drop k).length = pieces.length - k := by simp
  have h := finC_some (pieces.take k) (pieces.drop k) (by omega)
  have hnot : ¬ pieces.length > 7 := by omega
  have hel : (expand pieces (some k)).length = k + 1 + (pieces.length - k) := by simp [expand]; omega
  rw [hP, hX] at h
  rw [hel]
  simp only [expand, V6.finish, hnot, ↓reduceIte, h]
  congr 4
  omega

theorem finC_expand_none (pieces : List Nat) (hlen : pieces.length ≤ 8) :
    finC (pad8 (expand pieces none)) (expand pieces none).length none = V6.finish (some (pieces, none)) := by
  simp only [expand, finC, V6.finish]
  by_cases h8 : pieces.length = 8
  · simp [h8, pad8]
  · simp [h8]

def headIsDigit (l : Bytes) : Bool := match l with | c :: _ => isDigit c | [] => false

theorem readPieceGo_stop (f v : Nat) (t : Bytes) (h : headIsDigit t = false) : readIpv4Piece.go f v t = some (v, t) := by
  cases f with
  | zero => rfl
  | succ f =>
    cases t with
    | nil => rfl
    | cons c t' =>
      have : isAsciiDigit c = false := h
      simp [readIpv4Piece.go, this]

theorem readPieceGo_digit (f v : Nat) (c : UInt8) (t : Bytes) (hd : isAsciiDigit c = true) :
    readIpv4Piece.go (f + 1) v (c :: t) =
      (if v == 0 then none else if v * 10 + digitVal c > 255 then none else readIpv4Piece.go f (v * 10 + digitVal c) t) := by
  simp [readIpv4Piece.go, hd]

/-- the code's piece reader against the Standard's: same value when the piece ends after at most three digits,
    and a fourth digit makes the Standard's reader fail -/
theorem v4Piece_readIpv4Piece (p : Bytes) :
    (match v4Piece p with
     | none => readIpv4Piece p = none
     | some (v, rest) => v ≤ 255 ∧ (if headIsDigit rest then readIpv4Piece p = none else readIpv4Piece p = some (v, rest))) := by
  unfold v4Piece
  match p with
  | [] => simp [readIpv4Piece]
  | c :: p1 =>
    by_cases hc : isDigit c = true
    · have hca : isAsciiDigit c = true := hc
      obtain ⟨dv0, l0, _⟩ := K4.dec_facts c hc
      have hs : readIpv4Piece (c :: p1) = readIpv4Piece.go p1.length (digitVal c) p1 := by simp [readIpv4Piece, hca]
      simp only [hc, Bool.not_true, Bool.false_eq_true, ↓reduceIte, hs]
      rw [← dv0] at l0 ⊢
      generalize digitVal c = a at l0 ⊢
      match p1 with
      | [] => simp [readIpv4Piece.go, headIsDigit]; omega
      | c1 :: p2 =>
        by_cases h1 : isDigit c1 = true
        · have h1a : isAsciiDigit c1 = true := h1
          obtain ⟨dv1, l1, _⟩ := K4.dec_facts c1 h1
          simp only [h1, ↓reduceIte, List.length_cons, readPieceGo_digit _ _ _ _ h1a]
          rw [← dv1] at l1 ⊢
          generalize digitVal c1 = b at l1 ⊢
          by_cases hz : (a == 0) = true
          · simp [hz]
          · have hz' : a ≠ 0 := by simpa using hz
            have hb : ¬ a * 10 + b > 255 := by omega
            simp only [hz, Bool.false_eq_true, ↓reduceIte, hb]
            match p2 with
            | [] => simp [readIpv4Piece.go, headIsDigit]; omega
            | c2 :: p3 =>
              by_cases h2 : isDigit c2 = true
              · have h2a : isAsciiDigit c2 = true := h2
                obtain ⟨dv2, l2, _⟩ := K4.dec_facts c2 h2
                simp only [h2, ↓reduceIte, List.length_cons, readPieceGo_digit _ _ _ _ h2a]
                rw [← dv2] at l2 ⊢
                generalize digitVal c2 = d at l2 ⊢
                have hnz : ((a * 10 + b) == 0) = false := by
                  have : a * 10 + b ≠ 0 := by omega
                  simpa using this
                simp only [hnz, Bool.false_eq_true, ↓reduceIte]
                by_cases hgt : (a * 10 + b) * 10 + d > 255
                · simp [hgt]
                · simp only [hgt, ↓reduceIte]
                  refine ⟨by omega, ?_⟩
                  by_cases h3 : headIsDigit p3 = true
                  · simp only [h3, ↓reduceIte]
                    cases p3 with
                    | nil => simp [headIsDigit] at h3
                    | cons c3 p4 =>
                      have h3a : isAsciiDigit c3 = true := h3
                      rw [List.length_cons, readPieceGo_digit _ _ _ _ h3a]
                      have hnz2 : (((a * 10 + b) * 10 + d) == 0) = false := by
                        have : (a * 10 + b) * 10 + d ≠ 0 := by omega
                        simpa using this
                      have hb4 : ((a * 10 + b) * 10 + d) * 10 + digitVal c3 > 255 := by
                        have : 1 ≤ a := by omega
                        omega
                      simp [hnz2, hb4]
                  · have h3' : headIsDigit p3 = false := by simpa using h3
                    simp only [h3', Bool.false_eq_true, ↓reduceIte]
                    exact readPieceGo_stop _ _ _ h3'
              · have h2' : isDigit c2 = false := by simpa using h2
                simp only [h2', Bool.false_eq_true, ↓reduceIte, headIsDigit]
                refine ⟨by omega, ?_⟩
                exact readPieceGo_stop _ _ _ (by simpa [headIsDigit] using h2')
        · have h1' : isDigit c1 = false := by simpa using h1
          simp only [h1', Bool.false_eq_true, ↓reduceIte, headIsDigit]
          refine ⟨by omega, ?_⟩
          exact readPieceGo_stop _ _ _ (by simpa [headIsDigit] using h1')
    · have hc' : isDigit c = false := by simpa using hc
      have hca : isAsciiDigit c = false := hc'
      simp [hc', readIpv4Piece, hca]

/-- the Standard's embedded-IPv4 reader as "n more pieces" -/
def embeddedRest : Nat → Bool → Bytes → Option (List Nat)
  | 0, _, s => if s.isEmpty then some [] else none
  | n + 1, needDot, s =>
    match (if needDot then (match s with | 0x2E :: t => some t | _ => none) else some s) with
    | none => none
    | some t =>
      match readIpv4Piece t with
      | none => none
      | some (v, r) => (embeddedRest n true r).map (v :: ·)

def toPair : List Nat → Option (Nat × Nat)
  | [a, b, c, d] => some (a * 256 + b, c * 256 + d)
  | _ => none

theorem notdot_tail (c : UInt8) (s : Bytes) (h : c ≠ 0x2E) :
    (match c :: s with | 0x2E :: t => some t | _ => (none : Option Bytes)) = none := by
  split
  · rename_i heq; injection heq with e _; exact absurd e h
  · rfl

theorem readEmbedded_rest (s : Bytes) : readEmbeddedIpv4 s = (embeddedRest 4 false s).bind toPair := by
  unfold readEmbeddedIpv4
  simp only [embeddedRest, Bool.false_eq_true, ↓reduceIte]
  cases h1 : readIpv4Piece s with
  | none => rfl
  | some r1 =>
    obtain ⟨a, s1⟩ := r1
    simp only [↓reduceIte]
    match s1 with
    | [] => rfl
    | c1 :: s1' =>
      by_cases e1 : c1 = 0x2E
      · subst e1
        simp only
        cases h2 : readIpv4Piece s1' with
        | none => rfl
        | some r2 =>
          obtain ⟨b, s2⟩ := r2
          simp only
          match s2 with
          | [] => rfl
          | c2 :: s2' =>
            by_cases e2 : c2 = 0x2E
            · subst e2
              simp only
              cases h3 : readIpv4Piece s2' with
              | none => rfl
              | some r3 =>
                obtain ⟨c, s3⟩ := r3
                simp only
                match s3 with
                | [] => rfl
                | c3 :: s3' =>
                  by_cases e3 : c3 = 0x2E
                  · subst e3
                    simp only
                    cases h4 : readIpv4Piece s3' with
                    | none => rfl
                    | some r4 =>
                      obtain ⟨d, s4⟩ := r4
                      simp only
                      cases s4 with
                      | nil => simp [toPair]
                      | cons x xs => simp
                  · have := notdot_tail c3 s3' e3
                    split
                    · rename_i heq; injection heq with e _; exact absurd e e3
                    · simp [this]
            · have := notdot_tail c2 s2' e2
              split
              · rename_i heq; injection heq with e _; exact absurd e e2
              · simp [this]
      · have := notdot_tail c1 s1' e1
        split
        · rename_i heq; injection heq with e _; exact absurd e e1
        · simp [this]

theorem v4Piece_consumes (p : Bytes) (v : Nat) (rest : Bytes) (h : v4Piece p = some (v, rest)) :
    rest.length < p.length ∧ p.length ≤ rest.length + 3 := by
  simp only [v4Piece] at h
  split at h
  · cases h
  · rename_i c p1
    split at h
    · cases h
    · split at h
      · rename_i c1 p2
        split at h
        · split at h
          · cases h
          · split at h
            · rename_i c2 p3
              split at h
              · split at h
                · cases h
                · injection h with h; injection h with _ h; subst h; simp; omega
              · injection h with h; injection h with _ h; subst h; simp
            · injection h with h; injection h with _ h; subst h; simp
        · injection h with h; injection h with _ h; subst h; simp
      · injection h with h; injection h with _ h; subst h; simp

/-- the array updates of the embedded-IPv4 loop for the numbers still to come -/
def applyNums : Nat → List Nat → List Nat → Nat → List Nat × Nat
  | _, [], ad, pi => (ad, pi)
  | ns, v :: l, ad, pi =>
    let ad' := setAt ad pi ((getAt ad pi * 256 + v) % 65536)
    let pi' := if ns + 1 == 2 || ns + 1 == 4 then pi + 1 else pi
    applyNums (ns + 1) l ad' pi'

theorem headDigit_notdot (r : Bytes) (h : headIsDigit r = true) :
    (match r with | 0x2E :: t => some t | _ => (none : Option Bytes)) = none ∧ r ≠ [] := by
  cases r with
  | nil => simp [headIsDigit] at h
  | cons c t =>
    exact ⟨notdot_tail c t (by intro e; subst e; simp [headIsDigit, isDigit] at h), by simp⟩

theorem embeddedRest_headDigit (n : Nat) (r : Bytes) (h : headIsDigit r = true) : embeddedRest n true r = none := by
  obtain ⟨h1, h2⟩ := headDigit_notdot r h
  cases n with
  | zero => simp [embeddedRest, h2]
  | succ n => simp only [embeddedRest, ↓reduceIte, h1]

theorem v4Loop_rest (n : Nat) (f : Nat) (p : Bytes) (ns : Nat) (hns : ns + n = 4) (address : List Nat) (pi : Nat)
    (hf : p.length < f) :
    (v4Loop f p ns address pi).bind (fun r => if r.2.2 != 4 then none else some (r.1, r.2.1)) =
      (embeddedRest n (decide (ns > 0)) p).map (fun l => applyNums ns l address pi) := by
  induction n generalizing f p ns address pi with
  | zero =>
    have hns4 : ns = 4 := by omega
    subst hns4
    cases f with
    | zero => omega
    | succ f =>
      unfold v4Loop
      cases p with
      | nil => simp [embeddedRest, applyNums]
      | cons c r => simp [embeddedRest]
  | succ n ih =>
    have hlt : ns < 4 := by omega
    cases f with
    | zero => omega
    | succ f =>
      unfold v4Loop
      cases p with
      | nil =>
        have : (ns != 4) = true := by simp; omega
        have hne4 : ¬ ns = 4 := by omega
        by_cases h0 : ns > 0
        · simp [embeddedRest, h0, hne4]
        · simp [embeddedRest, h0, hne4, readIpv4Piece]
      | cons c r =>
        simp only [List.isEmpty_cons, Bool.false_eq_true, ↓reduceIte, embeddedRest]
        have hdot : (if ns > 0 then (if (c == 0x2E && decide (ns < 4)) = true then some r else none) else some (c :: r)) =
            (if decide (ns > 0) = true then (match c :: r with | 0x2E :: t => some t | _ => none) else some (c :: r)) := by
          by_cases h0 : ns > 0
          · simp only [h0, ↓reduceIte, decide_true, hlt, Bool.and_true]
            by_cases hc : c = 0x2E
            · subst hc; simp
            · have : (c == 0x2E) = false := by simpa using hc
              simp only [this, Bool.false_eq_true, ↓reduceIte, notdot_tail c r hc]
          · simp [h0]
        rw [hdot]
        cases hq : (if decide (ns > 0) = true then (match c :: r with | 0x2E :: t => some t | _ => none) else some (c :: r)) with
        | none => simp
        | some t =>
          have htlen : t.length ≤ (c :: r).length := by
            by_cases h0 : ns > 0
            · simp only [h0, decide_true, ↓reduceIte] at hq
              split at hq
              · rename_i heq; injection hq with hq; subst hq; injection heq with _ e; subst e; simp
              · cases hq
            · simp only [h0, decide_false, Bool.false_eq_true, ↓reduceIte] at hq
              injection hq with hq; subst hq; exact Nat.le_refl _
          simp only
          have hrel := v4Piece_readIpv4Piece t
          cases hv : v4Piece t with
          | none =>
            rw [hv] at hrel
            simp only at hrel
            simp [hrel]
          | some vr =>
            obtain ⟨v, rest⟩ := vr
            rw [hv] at hrel
            obtain ⟨hv255, hrd⟩ := hrel
            have hrlen : rest.length < t.length := (v4Piece_consumes t v rest hv).1
            have hih := ih f rest (ns + 1) (by omega)
              (setAt address pi ((getAt address pi * 256 + v) % 65536))
              (if (ns + 1 == 2 || ns + 1 == 4) = true then pi + 1 else pi) (by
                have : (c :: r).length = r.length + 1 := rfl
                omega)
            simp only
            rw [hih]
            have hdec : decide (ns + 1 > 0) = true := by simp
            rw [hdec]
            by_cases hhd : headIsDigit rest = true
            · simp only [hhd, ↓reduceIte] at hrd
              rw [hrd, embeddedRest_headDigit n rest hhd]
              simp
            · have hhd' : headIsDigit rest = false := by simpa using hhd
              simp only [hhd', Bool.false_eq_true, ↓reduceIte] at hrd
              rw [hrd]
              simp only
              cases hsr : embeddedRest n true rest with
              | none => simp
              | some l => simp [applyNums]

end AdaVerif.Lemmas.K6
