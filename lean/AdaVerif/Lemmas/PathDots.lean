import AdaVerif.Lemmas.PathSig
import AdaVerif.Spec.Url
import AdaVerif.Lemmas.Ascii
/-
The dot-segment tests of the path builder are the Standard's: `is_single_dot_path_segment` and the hash-table based
`is_double_dot_path_segment` agree with `Spec.isSingleDot` / `Spec.isDoubleDot` on every byte string.
-/
namespace AdaVerif.Lemmas.PP
open AdaVerif AdaVerif.Spec AdaVerif.Model.PathPrepared

theorem alpha_facts : ∀ x : UInt8, (toLowerAlpha x = toLowerByte x ∧ Model.PathPrepared.isAlpha x = isAsciiAlpha x) ∧
    (toLowerByte x = 0x65 ↔ (x = 0x65 ∨ x = 0x45)) := by
  apply forall_uint8_of_fin; decide +kernel

theorem lowerAlpha_eq (c : UInt8) : toLowerAlpha c = toLowerByte c := (alpha_facts c).1.1
theorem isAlpha_model_eq (b : UInt8) : Model.PathPrepared.isAlpha b = isAsciiAlpha b := (alpha_facts b).1.2

theorem singleDot_eq (s : Bytes) : Model.PathPrepared.isSingleDot s = Spec.isSingleDot s := by
  unfold Model.PathPrepared.isSingleDot Spec.isSingleDot lowerAscii
  rw [Bool.eq_iff_iff]
  match s with
  | [] => simp
  | [a] => simp [Lower.eq_iff a 0x2E (by decide)]
  | [a, b] => simp
  | [a, b, c] =>
    simp only [List.map_cons, List.map_nil, Bool.or_eq_true, beq_iff_eq, List.cons.injEq, and_true, Lower.eq_iff a 0x25 (by decide),
      Lower.eq_iff b 0x32 (by decide), (alpha_facts c).2]
    simp only [reduceCtorEq, and_false, false_or, and_or_left]
  | _ :: _ :: _ :: _ :: _ => simp

theorem dec_beq (a b : UInt8) : decide (a = b) = (a == b) := by
  by_cases h : a = b <;> simp [h]

theorem doubleDotTable_eq : Gen.doubleDotTable = [[0x2E, 0x2E], [0x25, 0x32, 0x65, 0x2E], [0x2E, 0x25, 0x32, 0x65], [0x25, 0x32, 0x65, 0x25, 0x32, 0x65]] := by
  decide

theorem dd_model_dot (rest : Bytes) :
    Model.PathPrepared.isDoubleDot (0x2E :: rest) =
      (match rest with
       | [b] => b == 0x2E
       | [b, c, d] => b == 0x25 && toLowerByte c == 0x32 && toLowerByte d == 0x65
       | _ => false) := by
  unfold Model.PathPrepared.isDoubleDot
  match rest with
  | [] => simp
  | [b] => simp [doubleDotTable_eq, dec_beq]
  | [b, c] => simp [doubleDotTable_eq]
  | [b, c, d] => simp [doubleDotTable_eq, lowerAlpha_eq, Bool.and_assoc, dec_beq]
  | [b, c, d, e] => simp [doubleDotTable_eq]
  | [b, c, d, e, f] => simp [doubleDotTable_eq]
  | [b, c, d, e, f, g] => simp [doubleDotTable_eq]
  | _ :: _ :: _ :: _ :: _ :: _ :: _ :: _ => simp; omega

theorem dd_model_pct (rest : Bytes) :
    Model.PathPrepared.isDoubleDot (0x25 :: rest) =
      (match rest with
       | [b, c, d] => b == 0x32 && toLowerByte c == 0x65 && toLowerByte d == 0x2E
       | [b, c, d, e, f] => b == 0x32 && toLowerByte c == 0x65 && toLowerByte d == 0x25 && toLowerByte e == 0x32 &&
                            toLowerByte f == 0x65
       | _ => false) := by
  unfold Model.PathPrepared.isDoubleDot
  match rest with
  | [] => simp
  | [b] => simp [doubleDotTable_eq]
  | [b, c] => simp [doubleDotTable_eq]
  | [b, c, d] => simp [doubleDotTable_eq, lowerAlpha_eq, Bool.and_assoc, dec_beq]
  | [b, c, d, e] => simp [doubleDotTable_eq]
  | [b, c, d, e, f] => simp [doubleDotTable_eq, lowerAlpha_eq, Bool.and_assoc, dec_beq]
  | [b, c, d, e, f, g] => simp [doubleDotTable_eq]
  | _ :: _ :: _ :: _ :: _ :: _ :: _ :: _ => simp; omega

theorem dd_model_other (a : UInt8) (rest : Bytes) (h1 : a ≠ 0x2E) (h2 : a ≠ 0x25) :
    Model.PathPrepared.isDoubleDot (a :: rest) = false := by
  unfold Model.PathPrepared.isDoubleDot
  simp only
  split
  · rfl
  · have e1 : (a != 0x2E) = true := by simpa using h1
    have e2 : (a != 0x25) = true := by simpa using h2
    simp [e1, e2]

theorem dd_spec_dot (rest : Bytes) :
    Spec.isDoubleDot (0x2E :: rest) =
      (match rest with
       | [b] => b == 0x2E
       | [b, c, d] => b == 0x25 && toLowerByte c == 0x32 && toLowerByte d == 0x65
       | _ => false) := by
  unfold Spec.isDoubleDot lowerAscii
  have h0 : toLowerByte 0x2E = 0x2E := by decide
  match rest with
  | [] => simp [h0]
  | [b] => simp [h0, Lower.beq b 0x2E (by decide)]
  | [b, c] => simp [h0]
  | [b, c, d] => simp [h0, Lower.beq b 0x25 (by decide), Bool.and_assoc]
  | _ :: _ :: _ :: _ :: _ => simp [h0]

theorem dd_spec_pct (rest : Bytes) :
    Spec.isDoubleDot (0x25 :: rest) =
      (match rest with
       | [b, c, d] => b == 0x32 && toLowerByte c == 0x65 && toLowerByte d == 0x2E
       | [b, c, d, e, f] => b == 0x32 && toLowerByte c == 0x65 && toLowerByte d == 0x25 && toLowerByte e == 0x32 &&
                            toLowerByte f == 0x65
       | _ => false) := by
  unfold Spec.isDoubleDot lowerAscii
  have h0 : toLowerByte 0x25 = 0x25 := by decide
  match rest with
  | [] => simp [h0]
  | [b] => simp [h0]
  | [b, c] => simp [h0]
  | [b, c, d] => simp [h0, Lower.beq b 0x32 (by decide), Bool.and_assoc]
  | [b, c, d, e] => simp [h0]
  | [b, c, d, e, f] => simp [h0, Lower.beq b 0x32 (by decide), Bool.and_assoc]
  | _ :: _ :: _ :: _ :: _ :: _ :: _ => simp [h0]

theorem dd_spec_other (a : UInt8) (rest : Bytes) (h1 : a ≠ 0x2E) (h2 : a ≠ 0x25) :
    Spec.isDoubleDot (a :: rest) = false := by
  unfold Spec.isDoubleDot lowerAscii
  have e1 : toLowerByte a ≠ 0x2E := fun e => h1 ((Lower.eq_iff a 0x2E (by decide)).mp e)
  have e2 : toLowerByte a ≠ 0x25 := fun e => h2 ((Lower.eq_iff a 0x25 (by decide)).mp e)
  simp [e1, e2]

theorem doubleDot_eq (s : Bytes) : Model.PathPrepared.isDoubleDot s = Spec.isDoubleDot s := by
  cases s with
  | nil => rfl
  | cons a rest =>
    by_cases h1 : a = 0x2E
    · subst h1; rw [dd_model_dot, dd_spec_dot]
    · by_cases h2 : a = 0x25
      · subst h2; rw [dd_model_pct, dd_spec_pct]
      · rw [dd_model_other a rest h1 h2, dd_spec_other a rest h1 h2]

end AdaVerif.Lemmas.PP
