import AdaVerif.Model.HostParse
import AdaVerif.Lemmas.TableWalk
import AdaVerif.Lemmas.Ascii
/-
The three byte tables of `unicode.cpp` that the host parser reads are tabulations of the Standard's code-point
predicates.  Each table is walked once; everything else about them is derived.
-/
namespace AdaVerif.Lemmas.HP
open AdaVerif AdaVerif.Spec AdaVerif.Model.HostParse

theorem beq_lit (b : UInt8) (k : Nat) (hk : k < 256) : (b == (no_index (OfNat.ofNat k) : UInt8)) = (b.toNat == k) := by
  have e : (OfNat.ofNat k : UInt8).toNat = k := by
    show (UInt8.ofNat k).toNat = k
    simp [Nat.mod_eq_of_lt hk]
  rw [Bool.eq_iff_iff, beq_iff_eq, beq_iff_eq, ← UInt8.toNat_inj, e]

/-- the Standard's forbidden host code points as a predicate on numbers (the kernel compares numbers far faster than bytes) -/
def hostNat (n : Nat) : Bool :=
  n == 0x00 || n == 0x09 || n == 0x0A || n == 0x0D || n == 0x20 || n == 0x23 || n == 0x2F ||
  n == 0x3A || n == 0x3C || n == 0x3E || n == 0x3F || n == 0x40 || n == 0x5B || n == 0x5C ||
  n == 0x5D || n == 0x5E || n == 0x7C

theorem isForbiddenHost_toNat (b : UInt8) : isForbiddenHost b = hostNat b.toNat := by
  unfold isForbiddenHost hostNat
  simp (disch := decide) only [beq_lit]

theorem isForbiddenDomain_toNat (b : UInt8) :
    isForbiddenDomain b = (hostNat b.toNat || decide (b.toNat ≤ 0x1F) || b.toNat == 0x25 || b.toNat == 0x7F) := by
  unfold isForbiddenDomain
  simp (disch := decide) only [beq_lit, isForbiddenHost_toNat]

theorem hostCp_eq : ∀ b : UInt8, isForbiddenHostCp b = isForbiddenHost b := by
  simp only [isForbiddenHost_toNat]
  exact forall_tget (T := Gen.forbiddenHostTable) (Q := fun b v => (v != 0) = hostNat b.toNat)
    (by decide +kernel) (by decide +kernel)

/-- every non-ASCII byte is marked too: the table is applied to the result of domain-to-ASCII -/
theorem domainCp_eq : ∀ b : UInt8, isForbiddenDomainCp b = (isForbiddenDomain b || decide (b.toNat ≥ 128)) := by
  simp only [isForbiddenDomain_toNat]
  exact forall_tget (T := Gen.forbiddenDomainTable)
    (Q := fun b v => (v != 0) =
      (hostNat b.toNat || decide (b.toNat ≤ 0x1F) || b.toNat == 0x25 || b.toNat == 0x7F || decide (b.toNat ≥ 128)))
    (by decide +kernel) (by decide +kernel)

/-- 2 marks an upper-case letter (which only needs lower-casing), 1 a forbidden byte -/
theorem orUpper_eq (b : UInt8) :
    tget Gen.forbiddenDomainOrUpperTable b.toNat = if isAsciiUpper b then 2 else (isForbiddenDomainCp b).toNat := by
  rw [domainCp_eq, isForbiddenDomain_toNat]
  exact forall_tget (T := Gen.forbiddenDomainOrUpperTable)
    (Q := fun b v => v = if isAsciiUpper b then 2 else
      (hostNat b.toNat || decide (b.toNat ≤ 0x1F) || b.toNat == 0x25 || b.toNat == 0x7F || decide (b.toNat ≥ 128)).toNat)
    (by decide +kernel) (by decide +kernel) b

theorem upper_facts : ∀ b : UInt8, isAsciiUpper b = true →
    isForbiddenDomainCp b = false ∧ isForbiddenDomainCp (toLowerByte b) = false := by
  simp only [domainCp_eq, isForbiddenDomain_toNat]
  apply forall_uint8_of_fin; decide +kernel

theorem domainCp_lower (b : UInt8) : isForbiddenDomainCp (toLowerByte b) = isForbiddenDomainCp b := by
  cases h : isAsciiUpper b
  · rw [Lower.of_not_upper b h]
  · rw [(upper_facts b h).1, (upper_facts b h).2]

end AdaVerif.Lemmas.HP
