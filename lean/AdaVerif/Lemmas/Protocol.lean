import AdaVerif.Model.Protocol
import AdaVerif.Lemmas.Scheme
import AdaVerif.Lemmas.FastScheme
import AdaVerif.Lemmas.AggSetters
import AdaVerif.Lemmas.UrlSetters
/-
The protocol setter of both URL types is the Standard's protocol setter (scheme start / scheme state with a state override).
-/
namespace AdaVerif.Lemmas.Proto
open AdaVerif AdaVerif.Model AdaVerif.Spec AdaVerif.Lemmas

/-- one SWAR lane of `to_lower_ascii` lower-cases every ASCII byte -/
theorem laneLower_eq : ∀ b : Fin 128, laneLower b.val = (toLowerByte (UInt8.ofNat b.val)).toNat := by decide +kernel

theorem type_facts (s : Bytes) :
    (getSchemeType s != 1) = isSpecialScheme s ∧ (getSchemeType s == 6) = (s == bFile) ∧
    specialPortOf (getSchemeType s) = (defaultPort s).getD 0 ∧
    (getSchemeType s ≠ 1 → (listGet Gen.isSpecialList (getSchemeType s)).map UInt8.ofNat = s ∧ s.map toLowerByte = s) := by
  by_cases hm : s ∈ [bHttp, bHttps, bWs, bFtp, bWss, bFile]
  · -- a statement about each member of a six-element list: evaluated
    revert s
    decide +kernel
  · rw [getSchemeType_other s hm]
    simp only [List.mem_cons, List.not_mem_nil, or_false, not_or] at hm
    obtain ⟨h0, h2, h3, h4, h5, h6⟩ := hm
    refine ⟨?_, ?_, ?_, fun h => absurd rfl h⟩
    · simp [isSpecialScheme, h0, h2, h3, h4, h5, h6]
    · simp [h6]
    · simp [defaultPort, h0, h2, h3, h4, h5, specialPortOf, tget, Gen.specialPorts]

theorem bytes_of_nat (s : Bytes) (t : List Nat) (h : s.map (·.toNat) = t) : s = t.map UInt8.ofNat := by
  subst h
  simp [List.map_map, Function.comp_def]

theorem targets_ne_nil : ∀ k : Fin 8, listGet Gen.isSpecialList k.val ≠ [] := by decide
theorem targets_special : ∀ k : Fin 8,
    schemeHash ((listGet Gen.isSpecialList k.val).map UInt8.ofNat) = k.val →
    isSpecialScheme ((listGet Gen.isSpecialList k.val).map UInt8.ofNat) = true := by decide

/-- `ada::scheme::is_special(string_view)` is membership in the list of special schemes -/
theorem isSpecial_eq (s : Bytes) : Model.isSpecial s = isSpecialScheme s := by
  by_cases hm : s ∈ [bHttp, bHttps, bWs, bFtp, bWss, bFile]
  · revert s
    decide +kernel
  have hs : isSpecialScheme s = false := by
    simp only [List.mem_cons, List.not_mem_nil, or_false, not_or] at hm
    simp [isSpecialScheme, hm]
  rw [hs]
  cases hi : Model.isSpecial s
  · rfl
  -- `is_special` compared `s` with the name in its slot byte by byte: `s` is that name
  exfalso
  unfold Model.isSpecial at hi
  cases s with
  | nil => simp at hi
  | cons s0 rest =>
    simp only [List.isEmpty_cons, Bool.false_eq_true, ↓reduceIte, Bool.and_eq_true, beq_iff_eq] at hi
    have hlt : schemeHash (s0 :: rest) < 8 := Nat.mod_lt _ (by decide)
    have hne := targets_ne_nil ⟨schemeHash (s0 :: rest), hlt⟩
    have hsp := targets_special ⟨schemeHash (s0 :: rest), hlt⟩
    simp only at hne hsp
    generalize listGet Gen.isSpecialList (schemeHash (s0 :: rest)) = target at hi hne hsp
    cases target with
    | nil => exact hne rfl
    | cons t0 tr =>
      simp only [List.drop_succ_cons, List.drop_zero, List.getD_eq_getElem?_getD, List.getElem?_cons_zero,
        Option.getD_some] at hi
      have hm : (s0 :: rest).map (·.toNat) = t0 :: tr := by simp [hi.1.symm, hi.2]
      rw [← bytes_of_nat _ _ hm] at hsp
      rw [hsp rfl] at hs
      cases hs

theorem stripTN_colon (v : Bytes) : stripTN (v ++ [0x3A]) = stripTN v ++ [0x3A] := by
  simp [stripTN, List.filter_append, isTabOrNewline]

theorem alnumPlus_fun : FastScan.isAlnumPlus = isSchemeChar := funext FS.alnumPlus_eq

/-- the Standard's protocol setter in terms of the scan both C++ types perform -/
theorem scan_spec (u : Url) (v : Bytes) :
    setProtocol u v = match scanProtocol v with
      | .name n => protocolCore u (n.map toLowerByte)
      | _ => u := by
  unfold setProtocol scanProtocol
  simp only [stripTN_colon]
  cases hv : stripTN v with
  | nil =>
    have : isAsciiAlpha 0x3A = false := by decide
    simp [this]
  | cons c t =>
    simp only [List.cons_append]
    rw [FS.isAlpha_eq]
    by_cases ha : isAsciiAlpha c = true
    · simp only [ha, Bool.not_true, Bool.false_eq_true, ↓reduceIte, alnumPlus_fun]
      generalize hname : List.takeWhile isSchemeChar (c :: (t ++ [0x3A])) = name
      cases hd : List.drop name.length (c :: (t ++ [0x3A])) with
      | nil => simp
      | cons p rest =>
        by_cases hp : p = 0x3A
        · subst hp; simp
        · have hp' : (p == 0x3A) = false := by simpa using hp
          simp only [hp', Bool.false_eq_true, ↓reduceIte]
          split
          · rename_i heq; injection heq with e _; exact absurd e hp
          · rfl
    · simp [ha]

/-- none of the three refusals of the scheme state applies -/
def coreOk (u : Url) (buf : Bytes) : Bool :=
  !((isSpecialScheme u.scheme != isSpecialScheme buf) || ((u.includesCredentials || u.port.isSome) && buf == bFile) ||
    (u.scheme == bFile && u.host == some .empty))

theorem refuse3 {α : Type} (c1 c2 c3 : Bool) (x y : α) :
    (if c1 then x else if c2 then x else if c3 then x else y) = if !(c1 || c2 || c3) then y else x := by
  cases c1 <;> cases c2 <;> cases c3 <;> rfl

theorem protocolCore_refused (u : Url) (buf : Bytes) (h : coreOk u buf = false) : protocolCore u buf = u := by
  unfold protocolCore
  rw [refuse3, ← coreOk, h]
  rfl

theorem protocolCore_ok (u : Url) (buf : Bytes) (h : coreOk u buf = true) :
    protocolCore u buf = if u.port.isSome && u.port == defaultPort buf then { u with scheme := buf, port := none }
      else { u with scheme := buf } := by
  unfold protocolCore
  rw [refuse3, ← coreOk, h]
  rfl

theorem port_step (s : Bytes) (p : Option Nat) :
    (specialPortOf (getSchemeType s) != 0 && p == some (specialPortOf (getSchemeType s))) = (p.isSome && p == defaultPort s) := by
  obtain ⟨_, _, hport, _⟩ := type_facts s
  rw [hport]
  cases hd : defaultPort s with
  | none => cases p <;> simp
  | some d =>
    have := UR.defaultPort_pos s d hd
    have h0 : (d != 0) = true := by simpa using this
    cases p with
    | none => simp
    | some q => simp [h0]

theorem stored_name (buf : Bytes) :
    (if getSchemeType buf != 1 then (listGet Gen.isSpecialList (getSchemeType buf)).map UInt8.ofNat else buf) = buf := by
  split
  · rename_i hx
    obtain ⟨_, _, _, hname⟩ := type_facts buf
    exact (hname (by simpa using hx)).1
  · rfl

open AdaVerif.Model.UrlRec AdaVerif.Lemmas.UR in
theorem scheme_replacedR (u : Url) (buf : Bytes) (sp : Bool) (hsp : sp = isSpecialScheme buf) (hok : coreOk u buf = true) :
    (if (specialPortOf (getSchemeType buf) != 0 && u.port == some (specialPortOf (getSchemeType buf))) = true
      then { recOf u with scheme := buf, special := sp, port := none }
      else { recOf u with scheme := buf, special := sp }) = recOf (protocolCore u buf) := by
  subst hsp
  rw [port_step, protocolCore_ok u buf hok]
  split <;> simp [recOf, Url.isSpecial, Url.pathSerialized]

open AdaVerif.Model.UrlRec AdaVerif.Lemmas.UR AdaVerif.Lemmas.AggL in
/-- `url::parse_scheme<true>` (fast and slow path) is the scheme state with a state override -/
theorem parseSchemeR_eq (ty : Nat) (u : Url) (n : Bytes) (ok : CredOk u) (hty : (ty == 6) = (u.scheme == bFile)) :
    parseSchemeR ty (recOf u) n =
      if coreOk u (n.map toLowerByte) then (recOf (protocolCore u (n.map toLowerByte)), true) else (recOf u, false) := by
  obtain ⟨hspecial, hisFile, _, hstored⟩ := type_facts n
  unfold parseSchemeR
  rw [recOf_special, show (recOf u).hasCredentials = u.includesCredentials from rfl,
    show (recOf u).port = u.port from rfl, hostEmpty_iff u ok, hty]
  by_cases hpt : (getSchemeType n != 1) = true
  · -- the text is one of the six names: it is its own lower-case form and the name the table answers
    obtain ⟨hname, hlow⟩ := hstored (by simpa using hpt)
    have hspn : true = isSpecialScheme n := by rw [← hspecial, hpt]
    simp only [hpt, ↓reduceIte, hlow, hisFile, hname]
    rw [show (isSpecialScheme u.scheme != true) = (isSpecialScheme u.scheme != isSpecialScheme n) by rw [← hspn],
      refuse3, ← coreOk]
    split
    · rename_i hok
      exact congrArg (·, true) (scheme_replacedR u n true hspn hok)
    · rfl
  · simp only [hpt, Bool.false_eq_true, ↓reduceIte, isSpecial_eq, stored_name]
    rw [refuse3, ← coreOk]
    split
    · rename_i hok
      exact congrArg (·, true) (scheme_replacedR u _ _ (type_facts _).1 hok)
    · rfl

open AdaVerif.Model.UrlRec AdaVerif.Lemmas.UR AdaVerif.Lemmas.AggL in
theorem setProtocolR_eq (L ty : Nat) (u : Url) (v : Bytes) (ok : CredOk u) (hty : (ty == 6) = (u.scheme == bFile)) :
    setProtocolR L ty (recOf u) v = match scanProtocol v with
      | .empty => (recOf u, true)
      | .reject => (recOf u, false)
      | .name n =>
        if coreOk u (n.map toLowerByte) then
          (if getHrefSize (recOf (setProtocol u v)) ≤ L then (recOf (setProtocol u v), true) else (recOf u, false))
        else (recOf u, false) := by
  unfold setProtocolR
  rw [scan_spec u v]
  cases hs : scanProtocol v with
  | empty => rfl
  | reject => rfl
  | name n =>
    simp only
    rw [parseSchemeR_eq ty u n ok hty]
    by_cases hok : coreOk u (n.map toLowerByte) = true
    · simp only [hok, ↓reduceIte, Bool.true_and, decide_eq_true_eq]
      exact UR.ite_gt _ _ _ _
    · simp [hok]

open AdaVerif.Model.Agg AdaVerif.Lemmas.AggL in
theorem scheme_replaced (u : Url) (buf : Bytes) (ok : CredOk u) (hok : coreOk u buf = true) :
    (if (specialPortOf (getSchemeType buf) != 0 &&
          (layout (ofUrl { u with scheme := buf })).port == some (specialPortOf (getSchemeType buf))) = true
      then clearPort (layout (ofUrl { u with scheme := buf })) else layout (ofUrl { u with scheme := buf })) =
      layout (ofUrl (protocolCore u buf)) := by
  rw [port_ofUrl, port_step, protocolCore_ok u buf hok]
  split
  · rename_i h4
    -- a port is only stored next to a host, so the path needs no "/." in front
    have hdd : (ofUrl { u with scheme := buf }).dashdot = false := by
      cases hh : u.host with
      | none => obtain ⟨_, _, hpn⟩ := ok.hostless hh; simp [hpn] at h4
      | some h => simp [ofUrl]
    rw [clearPort_layout _ hdd]
    simp [ofUrl, Url.pathSerialized]
  · rfl

open AdaVerif.Model.Agg AdaVerif.Lemmas.AggL in
/-- `url_aggregator::parse_scheme_with_colon<true>` (fast and slow path) is the scheme state with a state override -/
theorem parseSchemeWithColonM_eq (u : Url) (n : Bytes) (ok : CredOk u)
    (hfile : u.scheme = bFile → u.host.isSome = true) :
    parseSchemeWithColonM u.isSpecial (u.scheme == bFile) (layout (ofUrl u)) (n ++ [0x3A]) =
      if coreOk u (n.map toLowerByte) then (layout (ofUrl (protocolCore u (n.map toLowerByte))), true)
      else (layout (ofUrl u), false) := by
  have hsetW : ∀ b : Bytes, setSchemeWithColon (layout (ofUrl u)) (b ++ [0x3A]) = layout (ofUrl { u with scheme := b }) := by
    intro b
    rw [setSchemeWithColon_layout (ofUrl u) _ (by simp [ofUrl])]
    simp [ofUrl, Url.pathSerialized]
  obtain ⟨hspecial, hisFile, _, hstored⟩ := type_facts n
  unfold parseSchemeWithColonM
  simp only [List.dropLast_concat, hasCredentials_layout u ok, port_ofUrl, fileEmptyHost u ok hfile, Url.isSpecial]
  by_cases hpt : (getSchemeType n != 1) = true
  · obtain ⟨_, hlow⟩ := hstored (by simpa using hpt)
    have hspn : true = isSpecialScheme n := by rw [← hspecial, hpt]
    simp only [hpt, ↓reduceIte, hlow, hisFile, hsetW]
    rw [show (isSpecialScheme u.scheme != true) = (isSpecialScheme u.scheme != isSpecialScheme n) by rw [← hspn],
      refuse3, ← coreOk]
    split
    · rename_i hok
      exact congrArg (·, true) (scheme_replaced u n ok hok)
    · rfl
  · simp only [hpt, Bool.false_eq_true, ↓reduceIte, isSpecial_eq, setScheme_ofUrl]
    rw [refuse3, ← coreOk]
    split
    · rename_i hok
      exact congrArg (·, true) (scheme_replaced u _ ok hok)
    · rfl

open AdaVerif.Model.Agg AdaVerif.Lemmas.AggL in
theorem setProtocolM_eq (L : Nat) (u : Url) (v : Bytes) (ok : CredOk u)
    (hfile : u.scheme = bFile → u.host.isSome = true) :
    setProtocolM L u.isSpecial (u.scheme == bFile) (layout (ofUrl u)) v = match scanProtocol v with
      | .empty => (layout (ofUrl u), true)
      | .reject => (layout (ofUrl u), false)
      | .name n =>
        if coreOk u (n.map toLowerByte) then
          (if (layout (ofUrl (setProtocol u v))).buf.length ≤ L then (layout (ofUrl (setProtocol u v)), true)
           else (layout (ofUrl u), false))
        else (layout (ofUrl u), false) := by
  unfold setProtocolM
  rw [scan_spec u v]
  cases hs : scanProtocol v with
  | empty => rfl
  | reject => rfl
  | name n =>
    simp only
    rw [parseSchemeWithColonM_eq u n ok hfile]
    by_cases hok : coreOk u (n.map toLowerByte) = true
    · simp only [hok, ↓reduceIte, Bool.true_and, decide_eq_true_eq]
      exact UR.ite_gt _ _ _ _
    · simp [hok]

end AdaVerif.Lemmas.Proto
