import AdaVerif.Lemmas.HostSetter
/-
Where `get_host_delimiter_location` and the Standard's host state part ways (a '/', '?' or '\\' between a '[' and the next
']'), both parsers reject the host - for a scheme that is not special, and for a host text that starts with '['.
-/
namespace AdaVerif.Lemmas.BR
open AdaVerif AdaVerif.Spec AdaVerif.Lemmas AdaVerif.Model.UrlRec

theorem gScan_ge (sp : Bool) : ∀ (N : Bytes) (inside : Bool) (i : Nat), i ≤ (gScan sp inside N i).1 := by
  intro N
  induction N with
  | nil => intro inside i; cases inside <;> simp [gScan]
  | cons c r ih =>
    intro inside i
    cases inside with
    | false =>
      simp only [gScan]
      split
      · exact Nat.le_refl _
      · split
        · exact Nat.le_refl _
        · split
          · exact Nat.le_trans (Nat.le_succ i) (ih true (i + 1))
          · exact Nat.le_trans (Nat.le_succ i) (ih false (i + 1))
    | true =>
      simp only [gScan]
      split
      · exact Nat.le_trans (Nat.le_succ i) (ih false (i + 1))
      · exact Nat.le_trans (Nat.le_succ i) (ih true (i + 1))

theorem take_step (c : UInt8) (r : Bytes) (g i : Nat) (h : i + 1 ≤ g) : (c :: r).take (g - i) = c :: r.take (g - (i + 1)) := by
  have : g - i = (g - (i + 1)) + 1 := by omega
  rw [this]; rfl

/-- the host text `get_host_delimiter_location` cuts out runs over a delimiter (and, started outside, over the '[' in front) -/
theorem gScan_dirty (sp : Bool) : ∀ (N : Bytes) (inside : Bool) (i : Nat), HS.bracketClean sp inside N = false →
    ∃ pre c post, N.take ((gScan sp inside N i).1 - i) = pre ++ c :: post ∧ isHardDelim sp c = true ∧
      (inside = false → (0x5B : UInt8) ∈ pre) := by
  intro N
  induction N with
  | nil => intro inside i h; cases inside <;> simp [HS.bracketClean] at h
  | cons c r ih =>
    intro inside i h
    cases inside with
    | false =>
      simp only [HS.bracketClean] at h
      split at h
      · cases h
      · rename_i hnd
        have hnd' : isHardDelim sp c = false ∧ (c == 0x3A) = false := by
          simpa using hnd
        by_cases hb : (c == 0x5B) = true
        · simp only [hb, ↓reduceIte] at h
          obtain ⟨pre, d, post, e1, e2, _⟩ := ih true (i + 1) h
          have hg : gScan sp false (c :: r) i = gScan sp true r (i + 1) := by
            simp [gScan, hnd'.1, hnd'.2, hb]
          rw [hg, take_step c r _ i (gScan_ge sp r true (i + 1)), e1]
          have hc : c = 0x5B := by simpa using hb
          exact ⟨c :: pre, d, post, rfl, e2, fun _ => by simp [hc]⟩
        · simp only [hb, Bool.false_eq_true, ↓reduceIte] at h
          obtain ⟨pre, d, post, e1, e2, e3⟩ := ih false (i + 1) h
          have hg : gScan sp false (c :: r) i = gScan sp false r (i + 1) := by
            simp [gScan, hnd'.1, hnd'.2, hb]
          rw [hg, take_step c r _ i (gScan_ge sp r false (i + 1)), e1]
          exact ⟨c :: pre, d, post, rfl, e2, fun _ => List.mem_cons_of_mem _ (e3 rfl)⟩
    | true =>
      simp only [HS.bracketClean] at h
      by_cases hb : (c == 0x5D) = true
      · simp only [hb, ↓reduceIte] at h
        obtain ⟨pre, d, post, e1, e2, _⟩ := ih false (i + 1) h
        have hg : gScan sp true (c :: r) i = gScan sp false r (i + 1) := by simp [gScan, hb]
        rw [hg, take_step c r _ i (gScan_ge sp r false (i + 1)), e1]
        exact ⟨c :: pre, d, post, rfl, e2, fun h => by cases h⟩
      · simp only [hb, Bool.false_eq_true, ↓reduceIte] at h
        have hg : gScan sp true (c :: r) i = gScan sp true r (i + 1) := by simp [gScan, hb]
        rw [hg, take_step c r _ i (gScan_ge sp r true (i + 1))]
        by_cases hd : isHardDelim sp c = true
        · exact ⟨[], c, r.take ((gScan sp true r (i + 1)).1 - (i + 1)), rfl, hd, fun h => by cases h⟩
        · simp only [hd, Bool.false_eq_true, ↓reduceIte] at h
          obtain ⟨pre, d, post, e1, e2, _⟩ := ih true (i + 1) h
          rw [e1]
          exact ⟨c :: pre, d, post, rfl, e2, fun h => by cases h⟩

theorem getLast_cons_ne (c : UInt8) (r : Bytes) (x : UInt8) (hc : c ≠ x) (hr : r.getLast? ≠ some x) : (c :: r).getLast? ≠ some x := by
  cases r with
  | nil => simpa using hc
  | cons d t => rw [List.getLast?_cons_cons]; exact hr

/-- the Standard's host state on the same text: the buffer runs to the authority's end, holds a '[' and does not end in ']' -/
theorem hostEnd_dirty (sp : Bool) : ∀ (hp T : Bytes) (inside : Bool) (i : Nat), (∀ b ∈ hp, isHardDelim sp b = false) →
    (T = [] ∨ ∃ c t, T = c :: t ∧ isHardDelim sp c = true) →
    HS.bracketClean sp inside (hp ++ T) = false →
    hostEnd.go hp i inside = i + hp.length ∧ (inside = false → (0x5B : UInt8) ∈ hp) ∧
      ((inside = true ∨ hp ≠ []) → hp.getLast? ≠ some 0x5D) := by
  intro hp
  induction hp with
  | nil =>
    intro T inside i _ hT h
    cases inside with
    | false =>
      exfalso
      rcases hT with e | ⟨c, t, e, hc⟩
      · subst e; simp [HS.bracketClean] at h
      · subst e; simp [HS.bracketClean, hc] at h
    | true =>
      exact ⟨by simp [hostEnd.go], fun h => (by cases h), fun _ => by simp⟩
  | cons c r ih =>
    intro T inside i hA hT h
    have hc : isHardDelim sp c = false := hA c (by simp)
    have hA' : ∀ b ∈ r, isHardDelim sp b = false := fun b hb => hA b (by simp [hb])
    rw [List.cons_append] at h
    cases inside with
    | false =>
      simp only [HS.bracketClean, hc, Bool.false_or] at h
      by_cases h3 : (c == 0x3A) = true
      · simp [h3] at h
      simp only [h3, Bool.false_eq_true, ↓reduceIte] at h
      by_cases hb : (c == 0x5B) = true
      · simp only [hb, ↓reduceIte] at h
        obtain ⟨e1, _, e3⟩ := ih T true (i + 1) hA' hT h
        have hcb : c = 0x5B := by simpa using hb
        refine ⟨?_, fun _ => by simp [hcb], fun _ => ?_⟩
        · simp [hostEnd.go, h3, hb, e1]; omega
        · exact getLast_cons_ne c r _ (by rw [hcb]; decide) (e3 (Or.inl rfl))
      · simp only [hb, Bool.false_eq_true, ↓reduceIte] at h
        obtain ⟨e1, e2, e3⟩ := ih T false (i + 1) hA' hT h
        have hr : r ≠ [] := by intro e; have := e2 rfl; rw [e] at this; cases this
        refine ⟨?_, fun _ => List.mem_cons_of_mem _ (e2 rfl), fun _ => ?_⟩
        · simp [hostEnd.go, h3, hb, e1]; omega
        · cases r with
          | nil => exact absurd rfl hr
          | cons d t => rw [List.getLast?_cons_cons]; exact e3 (Or.inr (by simp))
    | true =>
      simp only [HS.bracketClean] at h
      by_cases hb : (c == 0x5D) = true
      · simp only [hb, ↓reduceIte] at h
        obtain ⟨e1, e2, e3⟩ := ih T false (i + 1) hA' hT h
        have hr : r ≠ [] := by intro e; have := e2 rfl; rw [e] at this; cases this
        have hcb : c = 0x5D := by simpa using hb
        refine ⟨?_, fun h => (by cases h), fun _ => ?_⟩
        · simp [hostEnd.go, hcb, e1]; omega
        · cases r with
          | nil => exact absurd rfl hr
          | cons d t => rw [List.getLast?_cons_cons]; exact e3 (Or.inr (by simp))
      · simp only [hb, Bool.false_eq_true, ↓reduceIte, hc] at h
        obtain ⟨e1, _, e3⟩ := ih T true (i + 1) hA' hT h
        refine ⟨?_, fun h => (by cases h), fun _ => ?_⟩
        · simp [hostEnd.go, hb, e1]; omega
        · exact getLast_cons_ne c r _ (by intro e; rw [e] at hb; exact hb (by decide)) (e3 (Or.inl rfl))

theorem forbidden_bracket : isForbiddenHost 0x5B = true := by decide

theorem hard_cases (sp : Bool) (d : UInt8) (h : isHardDelim sp d = true) : d = 0x2F ∨ d = 0x3F ∨ d = 0x5C := by
  cases sp <;> simp [isHardDelim] at h
  · rcases h with h | h
    · exact Or.inl h
    · exact Or.inr (Or.inl h)
  · rcases h with (h | h) | h
    · exact Or.inl h
    · exact Or.inr (Or.inl h)
    · exact Or.inr (Or.inr h)

theorem hard_not_v6 (sp : Bool) (d : UInt8) (h : isHardDelim sp d = true) : ¬ V6Byte d ∧ d ≠ 0x5D := by
  rcases hard_cases sp d h with rfl | rfl | rfl <;> (unfold V6Byte; decide)

/-- the Standard's host parser fails on a host that holds a '[' and does not end in ']' (opaque host, or '[' in front) -/
theorem hostParse_unclosed (idna : Idna) (hp : Bytes) (op : Bool) (hm : (0x5B : UInt8) ∈ hp) (hl : hp.getLast? ≠ some 0x5D)
    (hc : op = true ∨ hp.head? = some 0x5B) : hostParse idna hp op = none := by
  unfold hostParse
  split
  · rename_i rest
    have : rest.getLast? ≠ some 0x5D := by
      cases rest with
      | nil => simp
      | cons d t => rw [List.getLast?_cons_cons] at hl; exact hl
    simp [this]
  · rename_i hne
    rcases hc with e | e
    · subst e
      simp only [↓reduceIte, opaqueHostParse]
      have : hp.any isForbiddenHost = true := List.any_eq_true.mpr ⟨0x5B, hm, forbidden_bracket⟩
      simp [this]
    · exfalso
      cases hp with
      | nil => cases e
      | cons c r =>
        have : c = 0x5B := by simpa using e
        subst this
        exact hne r rfl

theorem hostParse_over (idna : Idna) (sp : Bool) (pre post : Bytes) (d : UInt8) (op : Bool) (hm : (0x5B : UInt8) ∈ pre)
    (hd : isHardDelim sp d = true) (hc : op = true ∨ pre.head? = some 0x5B) : hostParse idna (pre ++ d :: post) op = none := by
  unfold hostParse
  split
  · rename_i rest heq
    cases pre with
    | nil => cases hm
    | cons c pre' =>
      have e2 : rest = pre' ++ d :: post := by
        have := List.cons.inj heq
        exact this.2.symm
      by_cases hl : rest.getLast? = some 0x5D
      · simp only [hl, bne_self_eq_false, Bool.false_eq_true, ↓reduceIte, Option.map_eq_none_iff]
        cases hv : ipv6Parse rest.dropLast with
        | none => rfl
        | some p =>
          exfalso
          have hb := ipv6Parse_bytes _ _ hv
          have hne : post ≠ [] := by
            intro e
            rw [e2, e] at hl
            simp at hl
            exact (hard_not_v6 sp d hd).2 hl
          have : d ∈ rest.dropLast := by
            rw [e2]
            have : pre' ++ d :: post = (pre' ++ [d]) ++ post := by simp
            rw [this, List.dropLast_append_of_ne_nil hne]
            simp
          exact (hard_not_v6 sp d hd).1 (hb d this)
      · simp [hl]
  · rename_i hne
    rcases hc with e | e
    · subst e
      simp only [↓reduceIte, opaqueHostParse]
      have : (pre ++ d :: post).any isForbiddenHost = true :=
        List.any_eq_true.mpr ⟨0x5B, List.mem_append_left _ hm, forbidden_bracket⟩
      simp [this]
    · exfalso
      cases pre with
      | nil => cases e
      | cons c r =>
        have : c = 0x5B := by simpa using e
        subst this
        exact hne (r ++ d :: post) rfl

/-- the side condition of the parser theorems: no '/', '?' (special: '\\') between a '[' and the next ']' of the host
    text - or the scheme is not special - or the host text starts with '[' (in the last two cases both parsers are shown to
    fail when the first fails) -/
def bracketOk (sp : Bool) (v : Bytes) : Bool := HS.bracketClean sp false v || !sp || v.head? == some 0x5B

theorem bracketOk_of_clean (sp : Bool) (v : Bytes) (h : HS.bracketClean sp false v = true) : bracketOk sp v = true := by
  simp [bracketOk, h]

theorem bracketOk_false (v : Bytes) : bracketOk false v = true := by simp [bracketOk]

end AdaVerif.Lemmas.BR
