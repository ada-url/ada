import AdaVerif.Model.Scheme
import AdaVerif.Spec.Url
/-
`ada::scheme::get_scheme_type` (the perfect hash of include/ada/scheme-inl.h) classifies every byte string like the
Standard's list of special schemes.
-/
namespace AdaVerif.Lemmas
open AdaVerif AdaVerif.Model

/-- reference classification: position of the scheme in ada's enum
    (http=0, not special=1, https=2, ws=3, ftp=4, wss=5, file=6) -/
def schemeTypeSpec (s : Bytes) : Nat :=
  if s = Spec.bHttp then 0 else if s = Spec.bHttps then 2 else if s = Spec.bWs then 3
  else if s = Spec.bFtp then 4 else if s = Spec.bWss then 5 else if s = Spec.bFile then 6 else 1

def toBytes (l : List Nat) : Bytes := l.map UInt8.ofNat

theorem load5_cons (a : UInt8) (t : Bytes) (h : t.length ≤ 4) : load5 (a :: t) = a.toNat + 256 * load5 t := by
  match t, h with
  | [], _ => rfl
  | [b], _ => simp only [load5]; omega
  | [b, c], _ => simp only [load5]; omega
  | [b, c, d], _ => simp only [load5]; omega
  | [b, c, d, e], _ => simp only [load5]; omega
  | _ :: _ :: _ :: _ :: _ :: _, h => simp at h

theorem load5_inj : ∀ (s t : Bytes), s.length = t.length → s.length ≤ 5 → load5 s = load5 t → s = t
  | [], [], _, _, _ => rfl
  | [], _ :: _, hl, _, _ => by simp at hl
  | _ :: _, [], hl, _, _ => by simp at hl
  | a :: s, b :: t, hl, h5, h => by
    simp only [List.length_cons] at hl h5
    rw [load5_cons a s (by omega), load5_cons b t (by omega)] at h
    have ha := a.toNat_lt
    have hb := b.toNat_lt
    rw [UInt8.toNat_inj.mp (by omega : a.toNat = b.toNat), load5_inj s t (by omega) (by omega) (by omega)]

theorem gen_names : Gen.isSpecialList.map toBytes =
    [Spec.bHttp, [0x20], Spec.bHttps, Spec.bWs, Spec.bFtp, Spec.bWss, Spec.bFile, [0x20]] := by decide
theorem hash_of_names : schemeHash Spec.bHttp = 0 ∧ schemeHash Spec.bHttps = 2 ∧ schemeHash Spec.bWs = 3 ∧
    schemeHash Spec.bFtp = 4 ∧ schemeHash Spec.bWss = 5 ∧ schemeHash Spec.bFile = 6 := by decide

/-- the rows of the two tables: a slot holds a name, its length at most five and its key the packed name, or it is a
    sentinel of length one with key 0 (which only the string "\0" could match, and that hashes to slot 2) -/
theorem gen_rows : ∀ h < 8,
    (toBytes (listGet Gen.isSpecialList h) ∈ [Spec.bHttp, Spec.bHttps, Spec.bWs, Spec.bFtp, Spec.bWss, Spec.bFile] ∧
      (listGet Gen.isSpecialList h).length ≤ 5 ∧ tget Gen.schemeKeys h = load5 (toBytes (listGet Gen.isSpecialList h))) ∨
    ((listGet Gen.isSpecialList h).length = 1 ∧ tget Gen.schemeKeys h = 0 ∧ h ≠ 2) := by decide

theorem getSchemeType_other (s : Bytes)
    (hm : s ∉ [Spec.bHttp, Spec.bHttps, Spec.bWs, Spec.bFtp, Spec.bWss, Spec.bFile]) : getSchemeType s = 1 := by
  unfold getSchemeType
  split
  · rfl
  simp only
  split
  · rename_i hc
    exfalso
    simp only [Bool.and_eq_true, beq_iff_eq] at hc
    obtain ⟨hlen, hkey⟩ := hc
    rcases gen_rows (schemeHash s) (Nat.mod_lt _ (by decide)) with ⟨hin, h5, hk⟩ | ⟨h1, hk, hne⟩
    · -- the slot's name has the length and the key of `s`: it is `s`
      have e := load5_inj s (toBytes (listGet Gen.isSpecialList (schemeHash s))) (by simpa [toBytes] using hlen) (by omega)
        (by rw [hkey, hk])
      exact hm (e ▸ hin)
    · match s, hlen.trans h1 with
      | [a], _ =>
        have ha : a.toNat = 0 := hkey.trans hk
        simp [schemeHash, ha] at hne
  · rfl

theorem getSchemeType_names : getSchemeType Spec.bHttp = 0 ∧ getSchemeType Spec.bHttps = 2 ∧
    getSchemeType Spec.bWs = 3 ∧ getSchemeType Spec.bFtp = 4 ∧ getSchemeType Spec.bWss = 5 ∧
    getSchemeType Spec.bFile = 6 := by decide +kernel

theorem getSchemeType_eq (s : Bytes) : getSchemeType s = schemeTypeSpec s := by
  by_cases hm : s ∈ [Spec.bHttp, Spec.bHttps, Spec.bWs, Spec.bFtp, Spec.bWss, Spec.bFile]
  · -- a statement about each member of a six-element list: evaluated
    revert s
    decide +kernel
  · rw [getSchemeType_other s hm]
    simp only [List.mem_cons, List.not_mem_nil, or_false, not_or] at hm
    simp only [schemeTypeSpec, hm, ↓reduceIte]

end AdaVerif.Lemmas
