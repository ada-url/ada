import AdaVerif.Lemmas.PathLoops
/-
The "fast" loop of `parse_prepared_path` (special scheme other than file, nothing to encode, no backslash, no '%')
is the Standard's path state too.
-/
namespace AdaVerif.Lemmas.PP
open AdaVerif AdaVerif.Spec AdaVerif.Lemmas AdaVerif.Lemmas.FP AdaVerif.Model.PathPrepared

theorem dots_literal (seg : Bytes) (h : ∀ b ∈ seg, b ≠ 0x25) :
    Spec.isDoubleDot seg = (seg == [0x2E, 0x2E]) ∧ Spec.isSingleDot seg = (seg == [0x2E]) := by
  constructor
  · cases seg with
    | nil => rfl
    | cons a rest =>
      by_cases h1 : a = 0x2E
      · subst h1
        rw [dd_spec_dot]
        match rest, h with
        | [], _ => rfl
        | [b], _ => simp
        | [b, c], _ => simp
        | [b, c, d], h =>
          have : (b == 0x25) = false := by simpa using h b (by simp)
          simp [this]
        | _ :: _ :: _ :: _ :: _, _ => simp
      · have ha : a ≠ 0x25 := h a (by simp)
        rw [dd_spec_other a rest h1 ha]
        simp [h1]
  · rw [← singleDot_eq]
    unfold Model.PathPrepared.isSingleDot
    match seg, h with
    | [], _ => rfl
    | [a], _ => simp
    | [a, b], _ => simp
    | [a, b, c], h =>
      have : a ≠ 0x25 := h a (by simp)
      simp [this]
    | _ :: _ :: _ :: _ :: _, _ => simp

theorem shorten_nonfile (scheme : Bytes) (hnf : scheme ≠ bFile) (segs : List Bytes) : Spec.shortenPath scheme segs = segs.dropLast := by
  have : (scheme == bFile) = false := by simpa using hnf
  unfold Spec.shortenPath
  split
  · simp [this]
  · rfl

theorem pathText_last (init : List Bytes) (last : Bytes) (hl : (0x2F : UInt8) ∉ last) :
    ((pathText (init ++ [last])).getLast? == some 0x2F) = last.isEmpty := by
  rw [pathText_snoc]
  cases last with
  | nil => simp
  | cons a t =>
    have hz := List.getLast_mem (l := a :: t) (by simp)
    have : (pathText init ++ 0x2F :: a :: t).getLast? = some ((a :: t).getLast (by simp)) := by
      simp [List.getLast?_eq_some_getLast]
    rw [this]
    have : (a :: t).getLast (by simp) ≠ 0x2F := fun e => hl (e ▸ hz)
    simp [this]

/-- ".." as the last segment: the three cases of the fast loop (empty path, path ending in '/', `resize(rfind('/') + 1)`)
    all drop the last segment and leave a trailing '/' -/
theorem fast_final_dd (segs : List Bytes) (hn : NoSlash segs) :
    (if (pathText segs).isEmpty then [0x2F]
     else if (pathText segs).getLast? == some 0x2F then pathText segs
     else resizeAfterLast (pathText segs)) = pathText (segs.dropLast ++ [[]]) := by
  by_cases he : segs = []
  · subst he; rfl
  · have hs := (List.dropLast_concat_getLast he).symm
    have hl : (0x2F : UInt8) ∉ segs.getLast he := hn _ (List.getLast_mem he)
    generalize segs.getLast he = last at hs hl
    generalize segs.dropLast = init at hs
    subst hs
    have hemp : (pathText (init ++ [last])).isEmpty = false := by rw [pathText_snoc]; simp
    simp only [hemp, Bool.false_eq_true, ↓reduceIte, pathText_last init last hl, List.dropLast_concat, resizeAfterLast,
      rfind_pathText_snoc init last hl]
    rw [pathText_snoc init []]
    cases last with
    | nil => simp [pathText_snoc]
    | cons a t =>
      simp only [List.isEmpty_cons, Bool.false_eq_true, ↓reduceIte]
      rw [pathText_snoc]
      rw [show pathText init ++ 0x2F :: a :: t = (pathText init ++ [0x2F]) ++ (a :: t) by simp]
      exact List.take_left' (by simp)

theorem fastLoop_eq (scheme : Bytes) (hnf : scheme ≠ bFile) (fuel : Nat) (input : Bytes) (segs : List Bytes)
    (hf : input.length < fuel) (hn : NoSlash segs)
    (hin : ∀ b ∈ input, inPath b = false ∧ b ≠ 0x25) :
    fastLoop fuel input (pathText segs) = pathText (pathSegments scheme (splitPath false input) segs) := by
  have hfb : (scheme == bFile) = false := by simpa using hnf
  induction fuel generalizing input segs with
  | zero => omega
  | succ f ih =>
    unfold fastLoop
    obtain ⟨hfst, hsp⟩ := cutSeg_split false input
    cases hc : cutSeg false input with
    | mk seg more =>
      rw [hc] at hfst hsp
      simp only at hfst hsp
      have henc : Spec.percentEncode inPath seg = seg := FP.percentEncode_id _ _ (fun b hb => (hin b (hfst b hb).1).1)
      obtain ⟨hdd, hsd⟩ := dots_literal seg (fun b hb => (hin b (hfst b hb).1).2)
      have hsegns : (0x2F : UInt8) ∉ seg := fun hm => (hfst _ hm).2.1 rfl
      cases more with
      | none =>
        rw [show splitPath false input = [seg] from hsp]
        simp only
        unfold pathSegments
        simp only [List.isEmpty_nil, henc, hdd, hsd, ↓reduceIte, hfb, Bool.false_and, Bool.false_eq_true, pathSegments]
        by_cases h2d : (seg == [0x2E, 0x2E]) = true
        · simp only [h2d, ↓reduceIte]
          rw [fast_final_dd segs hn, shorten_nonfile scheme hnf]
        · have h2d' : (seg == [0x2E, 0x2E]) = false := by simpa using h2d
          simp only [h2d', Bool.false_eq_true, ↓reduceIte]
          by_cases h1d : (seg == [0x2E]) = true
          · simp only [bne, h1d, Bool.not_true, Bool.false_eq_true, ↓reduceIte]
            rw [pathText_snoc]
          · have h1d' : (seg == [0x2E]) = false := by simpa using h1d
            simp only [bne, h1d', Bool.not_false, Bool.false_eq_true, ↓reduceIte]
            rw [pathText_snoc]; simp
      | some rest =>
        obtain ⟨h1, h2, h3⟩ := hsp
        rw [h1]
        simp only
        have hne := splitPath_isEmpty false rest
        have hin' : ∀ b ∈ rest, inPath b = false ∧ b ≠ 0x25 := fun b hb => hin b (h3 b hb)
        conv => rhs; unfold pathSegments
        simp only [hne, henc, hdd, hsd, hfb, Bool.false_and, Bool.false_eq_true, ↓reduceIte]
        by_cases h2d : (seg == [0x2E, 0x2E]) = true
        · simp only [h2d, ↓reduceIte]
          rw [erase_last segs hn, shorten_nonfile scheme hnf]
          exact ih rest _ (by omega) (fun s hs => hn s (List.dropLast_subset _ hs)) hin'
        · have h2d' : (seg == [0x2E, 0x2E]) = false := by simpa using h2d
          simp only [h2d', Bool.false_eq_true, ↓reduceIte]
          by_cases h1d : (seg == [0x2E]) = true
          · simp only [bne, h1d, Bool.not_true, Bool.false_eq_true, ↓reduceIte]
            exact ih rest segs (by omega) hn hin'
          · have h1d' : (seg == [0x2E]) = false := by simpa using h1d
            simp only [bne, h1d', Bool.not_false, Bool.false_eq_true, ↓reduceIte]
            have hps : pathText segs ++ [0x2F] ++ seg = pathText (segs ++ [seg]) := by rw [pathText_snoc]; simp
            rw [hps]
            exact ih rest _ (by omega) (noSlash_snoc _ _ hn hsegns) hin'

end AdaVerif.Lemmas.PP
