import AdaVerif.Lemmas.Decode
import AdaVerif.Lemmas.ListFacts
/-
`form_urlencoded_decode` (src/unicode.cpp): the hand-optimised loop with its prefix skip is the Standard's
"replace `+` by space, then percent-decode".
-/
namespace AdaVerif.Lemmas
open AdaVerif AdaVerif.Model

/-- the byte map inside `Spec.formDecode`, under a name (`formDecodeLoop_eq` ties the two by `show`) -/
private def p2s (b : UInt8) : UInt8 := if b == 0x2B then 0x20 else b

private theorem p2s_hex (b : UInt8) : isAsciiHexDigit (p2s b) = isAsciiHexDigit b := by
  unfold p2s; split
  · rename_i h; simp only [beq_iff_eq] at h; subst h; decide
  · rfl

private theorem p2s_of_hex (b : UInt8) (h : isAsciiHexDigit b = true) : p2s b = b :=
  replace_hex 0x2B 0x20 b (by decide) h

theorem unhex_or_ge (h1 h2 : UInt8) :
    (unhex h1 ||| unhex h2 ≥ 16) ↔ ¬ (isAsciiHexDigit h1 = true ∧ isAsciiHexDigit h2 = true) := by
  have a1 := unhex_spec h1; have a2 := unhex_spec h2
  have l1 := hexVal_lt h1; have l2 := hexVal_lt h2
  cases e1 : isAsciiHexDigit h1 <;> cases e2 : isAsciiHexDigit h2 <;> simp only [e1, e2] at a1 a2 ⊢
  · simp [a1.2, a2.2]
  · simp only [a1.2 trivial, a2.1 trivial]
    have : 255 ||| hexVal h2 ≥ 255 := Nat.left_le_or
    simp; omega
  · simp only [a1.1 trivial, a2.2 trivial]
    have : hexVal h1 ||| 255 ≥ 255 := Nat.right_le_or
    simp; omega
  · simp only [a1.1 trivial, a2.1 trivial]
    have : hexVal h1 ||| hexVal h2 < 16 := Nat.or_lt_two_pow (n := 4) l1 l2
    simp; omega

theorem shift_or_eq (a b : Nat) (hb : b < 16) : (a <<< 4) ||| b = a * 16 + b := by
  rw [Nat.shiftLeft_eq]
  have : a * 2 ^ 4 = 2 ^ 4 * a := Nat.mul_comm ..
  rw [this, Nat.two_pow_add_eq_or_of_lt (i := 4) (by simpa using hb)]

theorem formDecodeLoop_eq (s : Bytes) : formDecodeLoop s = Spec.formDecode s := by
  unfold Spec.formDecode
  show formDecodeLoop s = Spec.percentDecode (s.map p2s)
  fun_induction formDecodeLoop s with
  | case1 => rfl
  | case2 c h1 h2 rest hc ih =>
    simp only [beq_iff_eq] at hc; subst hc
    simp only [List.map_cons] at ih ⊢
    rw [decode_cons_plain _ _ (Or.inl (by decide))]
    rw [ih]; rfl
  | case3 c h1 h2 rest hc1 hc2 hh ih =>
    simp only [beq_iff_eq] at hc2; subst hc2
    simp only [List.map_cons] at ih ⊢
    rw [decode_cons_plain _ _ (Or.inr _)]
    · rw [ih]; rfl
    · have := (unhex_or_ge h1 h2).mp hh
      simp only [headsHex, p2s_hex]
      cases e1 : isAsciiHexDigit h1 <;> cases e2 : isAsciiHexDigit h2 <;> simp_all
  | case4 c h1 h2 rest hc1 hc2 hh ih =>
    simp only [beq_iff_eq] at hc2; subst hc2
    have hh' : isAsciiHexDigit h1 = true ∧ isAsciiHexDigit h2 = true := by
      have := mt (unhex_or_ge h1 h2).mpr hh
      simpa using this
    simp only [List.map_cons]
    have e0 : p2s 0x25 = 0x25 := by decide
    rw [e0, p2s_of_hex h1 hh'.1, p2s_of_hex h2 hh'.2]
    simp only [Spec.percentDecode, hh'.1, hh'.2, beq_self_eq_true, Bool.and_self, ↓reduceIte]
    rw [← ih, (unhex_spec h1).1 hh'.1, (unhex_spec h2).1 hh'.2, shift_or_eq _ _ (hexVal_lt h2)]
  | case5 c h1 h2 rest hc1 hc2 ih =>
    simp only [List.map_cons] at ih ⊢
    have : p2s c = c := by unfold p2s; simp [hc1]
    rw [this, decode_cons_plain _ _ (Or.inl (by simpa using hc2))]
    rw [ih]
  | case6 c rest hno ih =>
    match rest with
    | [] => simp only [List.map_cons, List.map_nil, Spec.percentDecode, formDecodeLoop, p2s]
    | [x] =>
      simp only [List.map_cons, List.map_nil, Spec.percentDecode] at ih ⊢
      simp only [ih, p2s]
    | x :: y :: r => exact absurd rfl (hno x y r)

/-- a prefix without `+` and `%` is copied: this is what the prefix skip of the C++ relies on -/
theorem formDecode_append_plain (pre t : Bytes) (h : ∀ b ∈ pre, (b != 0x2B && b != 0x25) = true) :
    Spec.formDecode (pre ++ t) = pre ++ Spec.formDecode t := by
  simp only [Bool.and_eq_true, bne_iff_ne, ne_eq] at h
  have hmap : pre.map (fun b => if b == 0x2B then 0x20 else b) = pre :=
    map_eq_self _ _ fun b hb => by simp [(h b hb).1]
  unfold Spec.formDecode
  rw [List.map_append, hmap, decode_append_plain _ _ fun b hb => (h b hb).2]

theorem formDecode_eq (s : Bytes) : formDecode s = Spec.formDecode s := by
  unfold formDecode
  simp only
  have hpre : ∀ b ∈ s.takeWhile (fun b => b != 0x2B && b != 0x25), _ := fun _ => mem_takeWhile
  split
  · rename_i hl
    have hs := (List.takeWhile_sublist _).eq_of_length (of_decide_eq_true hl)
    conv => rhs; rw [← List.append_nil s, formDecode_append_plain s [] (hs ▸ hpre)]
    exact (List.append_nil s).symm
  · rw [formDecodeLoop_eq, ← formDecode_append_plain _ _ hpre, takeWhile_append_drop]

end AdaVerif.Lemmas
