import AdaVerif.Lemmas.Cut
import AdaVerif.Lemmas.ListFacts
/-
The Spec's scanners on a text taken apart at the byte they look for: `lastIndexOf` (the credentials' last `@`),
`cutAt` (as corollaries of `Cut.cutAt_sfx`), and what `splitOn` keeps of its input.
-/
namespace AdaVerif.Lemmas
open AdaVerif AdaVerif.Spec

theorem lastIndexOf_go_none (c : UInt8) (l : Bytes) (i : Nat) (acc : Option Nat) (h : c ∉ l) :
    lastIndexOf.go c l i acc = acc := by
  induction l generalizing i acc with
  | nil => rfl
  | cons b t ih =>
    have hb : (b == c) = false := by simpa using fun e : b = c => h (by simp [e])
    simp only [lastIndexOf.go, hb, Bool.false_eq_true, ↓reduceIte]
    exact ih _ _ (fun hm => h (by simp [hm]))

theorem lastIndexOf_go_last (c : UInt8) (a r : Bytes) (i : Nat) (acc : Option Nat) (h : c ∉ r) :
    lastIndexOf.go c (a ++ c :: r) i acc = some (i + a.length) := by
  induction a generalizing i acc with
  | nil => simp [lastIndexOf.go, lastIndexOf_go_none c r _ _ h]
  | cons b t ih =>
    simp only [List.cons_append, lastIndexOf.go, List.length_cons]
    rw [ih]; congr 1; omega

theorem lastIndexOf_none (c : UInt8) (l : Bytes) (h : c ∉ l) : lastIndexOf c l = none :=
  lastIndexOf_go_none c l 0 none h

theorem lastIndexOf_last (c : UInt8) (a r : Bytes) (h : c ∉ r) : lastIndexOf c (a ++ c :: r) = some a.length := by
  simpa [lastIndexOf] using lastIndexOf_go_last c a r 0 none h

theorem cutAt_none (c : UInt8) (s : Bytes) (h : c ∉ s) : cutAt c s = (s, none) := by
  simpa [Cut.sfx] using Cut.cutAt_sfx c s none h

theorem cutAt_some (c : UInt8) (a r : Bytes) (h : c ∉ a) : cutAt c (a ++ c :: r) = (a, some r) :=
  Cut.cutAt_sfx c a (some r) h

theorem cutAt_fst (c : UInt8) (s : Bytes) : c ∉ (cutAt c s).1 ∧ (∀ b ∈ (cutAt c s).1, b ∈ s) ∧
    ((cutAt c s).2 = none → (cutAt c s).1 = s) := by
  obtain ⟨e, hc⟩ := Cut.cutAt_split c s
  refine ⟨hc, fun b hb => by rw [e]; exact List.mem_append_left _ hb, fun hn => ?_⟩
  rw [hn] at e
  simpa [Cut.sfx] using e.symm

theorem splitOn_mem (sep : UInt8) : ∀ (s : Bytes) (l : Bytes), l ∈ splitOn sep s → ∀ b ∈ l, b ∈ s := by
  intro s
  induction s with
  | nil => intro l hl b hb; simp [splitOn] at hl; subst hl; simp at hb
  | cons c t ih =>
    intro l hl b hb
    simp only [splitOn] at hl
    split at hl
    · rcases List.mem_cons.mp hl with rfl | hl'
      · simp at hb
      · exact List.mem_cons_of_mem _ (ih l hl' b hb)
    · cases hs : splitOn sep t with
      | nil => rw [hs] at hl; simp at hl; subst hl; simp at hb; subst hb; simp
      | cons h r =>
        rw [hs] at hl
        rcases List.mem_cons.mp hl with rfl | hl'
        · rcases List.mem_cons.mp hb with rfl | hb'
          · simp
          · exact List.mem_cons_of_mem _ (ih h (by rw [hs]; simp) b hb')
        · exact List.mem_cons_of_mem _ (ih l (by rw [hs]; simp [hl']) b hb)

theorem splitOn_no_sep (sep : UInt8) (a : Bytes) (h : sep ∉ a) : splitOn sep a = [a] := by
  induction a with
  | nil => rfl
  | cons b t ih =>
    have hb : b ≠ sep := fun e => h (by simp [e])
    have ht : sep ∉ t := fun e => h (by simp [e])
    simp [splitOn, hb, ih ht]

theorem splitOn_append (sep : UInt8) (a r : Bytes) (h : sep ∉ a) :
    splitOn sep (a ++ sep :: r) = a :: splitOn sep r := by
  induction a with
  | nil => simp [splitOn]
  | cons b t ih =>
    have hb : b ≠ sep := fun e => h (by simp [e])
    have ht : sep ∉ t := fun e => h (by simp [e])
    simp [splitOn, hb, ih ht]

end AdaVerif.Lemmas

namespace AdaVerif.Lemmas.FS
open AdaVerif AdaVerif.Spec

theorem splitOn_ne_nil (sep : UInt8) (s : Bytes) : splitOn sep s ≠ [] := by
  cases s with
  | nil => simp [splitOn]
  | cons b t =>
    simp only [splitOn]
    split
    · simp
    · cases splitOn sep t <;> simp

theorem join_split (sep : UInt8) (s : Bytes) : joinWith sep (splitOn sep s) = s := by
  induction s with
  | nil => rfl
  | cons b rest ih =>
    simp only [splitOn]
    split
    · rename_i hb
      have hb' : b = sep := by simpa using hb
      cases hsp : splitOn sep rest with
      | nil => exact absurd hsp (splitOn_ne_nil sep rest)
      | cons h t => rw [hsp] at ih; simp [joinWith, ih, hb']
    · cases hsp : splitOn sep rest with
      | nil => exact absurd hsp (splitOn_ne_nil sep rest)
      | cons h t =>
        rw [hsp] at ih
        cases t with
        | nil => simp [joinWith] at ih ⊢; exact ih
        | cons h2 t2 => simp only [joinWith, List.cons_append] at ih ⊢; rw [ih]

theorem split_nosep (sep : UInt8) (s : Bytes) : ∀ p ∈ splitOn sep s, sep ∉ p := by
  induction s with
  | nil => intro p hp; simp [splitOn] at hp; subst hp; simp
  | cons b rest ih =>
    intro p hp
    simp only [splitOn] at hp
    split at hp
    · rcases List.mem_cons.mp hp with rfl | hp
      · simp
      · exact ih p hp
    · rename_i hb
      have hb' : b ≠ sep := by simpa using hb
      cases hsp : splitOn sep rest with
      | nil => rw [hsp] at hp; simp at hp; subst hp; simp [hb'.symm]
      | cons h t =>
        rw [hsp] at hp ih
        simp only [List.mem_cons] at hp
        rcases hp with rfl | hp
        · intro hm
          rcases List.mem_cons.mp hm with e | hm
          · exact hb' e.symm
          · exact ih h (by simp) hm
        · exact ih p (by simp [hp])

theorem filter_join (sep : UInt8) (parts : List Bytes) (h : ∀ p ∈ parts, sep ∉ p) :
    (joinWith sep parts).filter (· != sep) = parts.flatten := by
  induction parts with
  | nil => rfl
  | cons a rest ih =>
    have ha : a.filter (· != sep) = a := by
      rw [List.filter_eq_self]
      intro x hx
      have : x ≠ sep := fun e => h a (by simp) (e ▸ hx)
      simpa using this
    cases rest with
    | nil => simp [joinWith, ha]
    | cons b r =>
      have := ih (fun p hp => h p (by simp [hp]))
      simp only [joinWith, List.filter_append, ha, List.filter_cons, bne_self_eq_false, Bool.false_eq_true, ↓reduceIte,
        List.flatten_cons] at this ⊢
      rw [this]

theorem flatten_snoc_last (init : List Bytes) (last : Bytes) (h : last ≠ []) :
    (init ++ [last]).flatten.getLast? = last.getLast? := by
  simp only [List.flatten_append, List.flatten_cons, List.flatten_nil, List.append_nil, List.getLast?_append]
  cases hx : last.getLast? with
  | none => simp at hx; exact absurd hx h
  | some z => rfl

theorem snoc_of_getLast? {α} (l : List α) (x : α) (h : l.getLast? = some x) : l = l.dropLast ++ [x] := by
  have hne : l ≠ [] := by intro e; subst e; simp at h
  have h1 := List.dropLast_concat_getLast hne
  have h2 : l.getLast hne = x := by rw [List.getLast?_eq_some_getLast hne] at h; injection h
  rw [h2] at h1; exact h1.symm

theorem cutAt_append_notin (c : UInt8) (p r : Bytes) (h : c ∉ p) :
    cutAt c (p ++ r) = (p ++ (cutAt c r).1, (cutAt c r).2) := by
  obtain ⟨e, hc⟩ := Cut.cutAt_split c r
  conv => lhs; rw [e, ← List.append_assoc]
  exact Cut.cutAt_sfx c _ _ (fun hm => (List.mem_append.mp hm).elim h hc)

theorem splitOn_head_prefix (sep : UInt8) (s h : Bytes) (tl : List Bytes) (hs : splitOn sep s = h :: tl) : ∃ r, s = h ++ r := by
  induction s generalizing h tl with
  | nil => simp [splitOn] at hs; exact ⟨[], by simp [hs.1]⟩
  | cons b rest ih =>
    simp only [splitOn] at hs
    split at hs
    · injection hs with h1 _; subst h1; exact ⟨b :: rest, rfl⟩
    · cases hsp : splitOn sep rest with
      | nil => exact absurd hsp (splitOn_ne_nil sep rest)
      | cons h' tl' =>
        rw [hsp] at hs
        injection hs with h1 _
        obtain ⟨r, hr⟩ := ih h' tl' hsp
        exact ⟨r, by rw [← h1, hr]; rfl⟩

theorem splitOn_infix (sep : UInt8) (s label : Bytes) (hl : label ∈ splitOn sep s) : ∃ a r, s = a ++ (label ++ r) := by
  induction s with
  | nil => simp [splitOn] at hl; subst hl; exact ⟨[], [], rfl⟩
  | cons b rest ih =>
    simp only [splitOn] at hl
    split at hl
    · rcases List.mem_cons.mp hl with rfl | hl
      · exact ⟨[], b :: rest, rfl⟩
      · obtain ⟨a, r, e⟩ := ih hl
        exact ⟨b :: a, r, by rw [e]; rfl⟩
    · cases hsp : splitOn sep rest with
      | nil => exact absurd hsp (splitOn_ne_nil sep rest)
      | cons h' tl' =>
        rw [hsp] at hl
        simp only [List.mem_cons] at hl
        rcases hl with rfl | hl
        · obtain ⟨r, hr⟩ := splitOn_head_prefix sep rest h' tl' hsp
          exact ⟨[], r, by rw [hr]; rfl⟩
        · obtain ⟨a, r, e⟩ := ih (by rw [hsp]; simp [hl])
          exact ⟨b :: a, r, by rw [e]; rfl⟩

end AdaVerif.Lemmas.FS

namespace AdaVerif.Lemmas.K4
open AdaVerif AdaVerif.Spec AdaVerif.Lemmas

theorem splitOn_snoc_sep (sep : UInt8) (t : Bytes) : splitOn sep (t ++ [sep]) = splitOn sep t ++ [[]] := by
  induction t with
  | nil => simp [splitOn]
  | cons b r ih =>
    simp only [List.cons_append, splitOn]
    split
    · simp [ih]
    · rw [ih]
      cases hsp : splitOn sep r with
      | nil => exact absurd hsp (FS.splitOn_ne_nil sep r)
      | cons h tl => simp

theorem last_label_empty (sep : UInt8) (t : Bytes) (h : (splitOn sep t).getLast? = some []) : t = [] ∨ t.getLast? = some sep := by
  induction t with
  | nil => left; rfl
  | cons b r ih =>
    right
    simp only [splitOn] at h
    split at h
    · rename_i hb
      have hb' : b = sep := by simpa using hb
      cases hsp : splitOn sep r with
      | nil => exact absurd hsp (FS.splitOn_ne_nil sep r)
      | cons p ps =>
        rw [hsp] at h ih
        have : (p :: ps).getLast? = some [] := by simpa [List.getLast?_cons_cons] using h
        rcases ih this with e | e
        · subst e; simp [hb']
        · cases r with
          | nil => simp at e
          | cons c r' => simpa [List.getLast?_cons_cons] using e
    · cases hsp : splitOn sep r with
      | nil => exact absurd hsp (FS.splitOn_ne_nil sep r)
      | cons p ps =>
        rw [hsp] at h ih
        cases ps with
        | nil => simp at h
        | cons q qs =>
          have : (p :: q :: qs).getLast? = some [] := by simpa [List.getLast?_cons_cons] using h
          rcases ih this with e | e
          · subst e; simp [splitOn] at hsp
          · cases r with
            | nil => simp at e
            | cons c r' => simpa [List.getLast?_cons_cons] using e

theorem splitOn_of_dot (s : Bytes) (h : s.getLast? = some 0x2E) : splitOn 0x2E s = splitOn 0x2E s.dropLast ++ [[]] := by
  conv => lhs; rw [FS.snoc_of_getLast? s 0x2E h]
  exact splitOn_snoc_sep 0x2E _

theorem splitOn_last_ne (s : Bytes) (hs : s ≠ []) (h : s.getLast? ≠ some 0x2E) : (splitOn 0x2E s).getLast? ≠ some [] :=
  fun hq => (last_label_empty 0x2E s hq).elim hs h

theorem length_splitOn_pos (sep : UInt8) (s : Bytes) : 0 < (splitOn sep s).length :=
  List.length_pos_iff.mpr (FS.splitOn_ne_nil sep s)

theorem last_label_split (t : Bytes) :
    ∃ pre L, (0x2E : UInt8) ∉ L ∧ (splitOn 0x2E t).getLast? = some L ∧ (t = L ∨ t = pre ++ 0x2E :: L) := by
  induction t with
  | nil => exact ⟨[], [], by simp, by simp [splitOn], Or.inl rfl⟩
  | cons b r ih =>
    obtain ⟨pre, L, hL, hl, hsplit⟩ := ih
    simp only [splitOn]
    split
    · rename_i hb
      have hb' : b = 0x2E := by simpa using hb
      subst hb'
      have hl2 : ([] :: splitOn 0x2E r).getLast? = some L := by
        cases hsp : splitOn 0x2E r with
        | nil => exact absurd hsp (FS.splitOn_ne_nil _ r)
        | cons p ps => rw [hsp] at hl; simpa [List.getLast?_cons_cons] using hl
      rcases hsplit with e | e
      · exact ⟨[], L, hL, hl2, Or.inr (by rw [e]; rfl)⟩
      · exact ⟨0x2E :: pre, L, hL, hl2, Or.inr (by rw [e]; rfl)⟩
    · rename_i hb
      have hb' : b ≠ 0x2E := by simpa using hb
      cases hsp : splitOn 0x2E r with
      | nil => exact absurd hsp (FS.splitOn_ne_nil _ r)
      | cons p ps =>
        rw [hsp] at hl
        cases ps with
        | nil =>
          -- a single label: r = L
          simp only [List.getLast?_singleton, Option.some.injEq] at hl
          subst hl
          have hr : r = p := by
            have := FS.join_split 0x2E r
            rw [hsp] at this; simpa [joinWith] using this.symm
          refine ⟨[], b :: p, ?_, by simp, Or.inl (by rw [hr])⟩
          intro hm
          rcases List.mem_cons.mp hm with e | e
          · exact hb' e.symm
          · exact hL e
        | cons q qs =>
          have hl' : (q :: qs).getLast? = some L := by simpa [List.getLast?_cons_cons] using hl
          rcases hsplit with e | e
          · -- r = L has no dot, but r has at least two labels
            exfalso
            have := Lemmas.splitOn_no_sep 0x2E r (by rw [e]; exact hL)
            rw [hsp] at this; simp at this
          · refine ⟨b :: pre, L, hL, by simpa [List.getLast?_cons_cons] using hl', Or.inr (by rw [e]; rfl)⟩

end AdaVerif.Lemmas.K4
