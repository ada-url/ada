import AdaVerif.Lemmas.PathDots
import AdaVerif.Lemmas.FixedPoint
/-
The `std::string path` of the path builder as a list of segments: `rfind('/')`, `find('/', 1)`, `erase`, `resize` on
the serialised path are `dropLast` / length tests on the segment list, and `helpers::shorten_path` is the
Standard's "shorten a url's path".
-/
namespace AdaVerif.Lemmas.PP
open AdaVerif AdaVerif.Spec AdaVerif.Lemmas.FP AdaVerif.Model.PathPrepared

def NoSlash (segs : List Bytes) : Prop := ∀ s ∈ segs, (0x2F : UInt8) ∉ s

/-- `rfind` is the Spec's `lastIndexOf`, recursion for recursion -/
theorem rfind_go_eq (c : UInt8) (l : Bytes) (i : Nat) (acc : Option Nat) : rfind.go c l i acc = lastIndexOf.go c l i acc := by
  induction l generalizing i acc with
  | nil => rfl
  | cons b t ih => exact ih _ _

theorem pathText_snoc (init : List Bytes) (last : Bytes) : pathText (init ++ [last]) = pathText init ++ 0x2F :: last := by
  simp [pathText, List.flatMap_append]

theorem rfind_pathText_snoc (init : List Bytes) (last : Bytes) (h : (0x2F : UInt8) ∉ last) :
    rfind 0x2F (pathText (init ++ [last])) = some (pathText init).length := by
  rw [pathText_snoc]
  unfold rfind
  rw [rfind_go_eq, lastIndexOf_go_last _ _ _ _ _ h]; simp

theorem erase_last (segs : List Bytes) (hn : NoSlash segs) : eraseAtLast (pathText segs) = pathText segs.dropLast := by
  unfold eraseAtLast
  by_cases he : segs = []
  · subst he; rfl
  · have hs := (List.dropLast_concat_getLast he).symm
    have hl : (0x2F : UInt8) ∉ segs.getLast he := hn _ (List.getLast_mem he)
    rw [hs, rfind_pathText_snoc _ _ hl]
    simp only [List.dropLast_concat]
    rw [pathText_snoc]
    exact List.take_left' rfl

theorem find_go_isSome (c : UInt8) (l : Bytes) (i : Nat) : (findFrom.go c l i).isSome = l.contains c := by
  induction l generalizing i with
  | nil => rfl
  | cons b t ih =>
    simp only [findFrom.go, List.contains_cons]
    by_cases hb : b = c
    · simp [hb]
    · have : (c == b) = false := by simpa using fun e => hb e.symm
      simp [hb, this, ih]

/-- `path.find('/', 1) == npos && !path.empty()`: the path has exactly one segment -/
theorem single_segment_test (segs : List Bytes) (hn : NoSlash segs) :
    ((findFrom 0x2F (pathText segs) 1).isNone && !(pathText segs).isEmpty) = (segs.length == 1) := by
  rw [← Bool.not_not (b := (findFrom 0x2F (pathText segs) 1).isNone), Option.not_isNone, findFrom, find_go_isSome]
  match segs, hn with
  | [], _ => rfl
  | [s], hn =>
    have : (0x2F : UInt8) ∉ s := hn s (by simp)
    simp [pathText, this]
  | s1 :: s2 :: rest, _ => simp [pathText]

theorem normalized_eq (s : Bytes) :
    Model.PathPrepared.isNormalizedWindowsDriveLetter s = Spec.isNormalizedWindowsDriveLetter s := by
  unfold Model.PathPrepared.isNormalizedWindowsDriveLetter Spec.isNormalizedWindowsDriveLetter
  split <;> simp [isAlpha_model_eq]

theorem shortenPath_eq (scheme : Bytes) (ty : Nat) (hty : (ty == 6) = (scheme == bFile)) (segs : List Bytes) (hn : NoSlash segs) :
    Model.PathPrepared.shortenPath (pathText segs) ty = pathText (Spec.shortenPath scheme segs) := by
  unfold Model.PathPrepared.shortenPath
  rw [Bool.and_assoc (ty == 6), single_segment_test segs hn, erase_last segs hn, hty]
  match segs with
  | [s] =>
    have hd : (pathText [s]).drop 1 = s := by simp [pathText]
    simp only [hd, normalized_eq, List.length_cons, List.length_nil, Nat.zero_add, beq_self_eq_true, Bool.and_true, Spec.shortenPath]
    split <;> rfl
  | [] => simp [Spec.shortenPath]
  | s1 :: s2 :: rest => simp [Spec.shortenPath]

end AdaVerif.Lemmas.PP
