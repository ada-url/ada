import AdaVerif.Lemmas.AggEditors
import AdaVerif.Spec.Setters
/-
The bridge between the Standard's URL record (Spec/Url.lean) and the single buffer: `ofUrl` is the
content a record denotes; its layout is the Standard's serialisation; and for the component setters
the in-place editor of `ada::url_aggregator` computes the serialisation of the Standard's setter
result.
-/
namespace AdaVerif.Lemmas.AggL
open AdaVerif AdaVerif.Model.Agg

/-- the content a record of the Standard denotes.  `dashdot` is the serializer's "/." rule: no host, a path that is not opaque,
    more than one segment and an empty first one (the path text would start with "//") -/
def ofUrl (u : Spec.Url) : L :=
  { scheme := u.scheme ++ [0x3A], auth := u.host.isSome, user := u.username, pass := u.password,
    host := match u.host with | some h => h.serialize | none => [],
    port := u.port.map (fun p => (p, Spec.natToDec p)),
    dashdot := u.host.isNone && !u.isOpaque && decide (u.path.length > 1) && u.path.head? == some [],
    path := u.pathSerialized, query := u.query, frag := u.fragment, opq := u.isOpaque }

def HostlessOk (u : Spec.Url) : Prop := u.host = none → u.username = [] ∧ u.password = [] ∧ u.port = none

theorem href_eq_layout (u : Spec.Url) (ok : HostlessOk u) : u.href = (layout (ofUrl u)).buf := by
  rw [layout_buf]
  unfold Spec.Url.href
  refine append_frag _ (append_query _ (congrArg (· ++ u.pathSerialized) ?_))
  unfold ofUrl
  cases hhost : u.host
  · obtain ⟨hu, hp, hport⟩ := ok hhost
    cases hd : (!u.isOpaque && decide (u.path.length > 1) && u.path.head? == some []) <;>
      simp only [hd, hu, hp, hport, Option.isSome_none, Option.isNone_none, Option.map_none, Bool.false_eq_true, Bool.true_and, ↓reduceIte,
        authS, passS, atS, portS, ddS, List.isEmpty_nil, Bool.and_self, List.append_nil]
  · cases u.port <;> cases hu : u.username <;> cases hp : u.password <;>
      simp only [Option.isSome_some, Option.isNone_some, Option.map_some, Option.map_none, Bool.false_eq_true, Bool.false_and, ↓reduceIte,
        List.isEmpty_nil, List.isEmpty_cons, authS, passS, atS, portS, ddS, Bool.not_true, Bool.not_false, Bool.or_self, Bool.or_true,
        Bool.or_false, Bool.and_self, Bool.and_true, Bool.and_false, List.append_assoc, List.append_nil, List.nil_append, List.cons_append]

theorem setUsername_refines (u : Spec.Url) (v : Bytes) (hc : u.cannotHaveUsernamePasswordPort = false)
    (hna : TailNoAt (ofUrl u)) :
    layout (ofUrl (Spec.setUsername u v)) = updateBaseUsername (layout (ofUrl u)) (Spec.percentEncode Spec.inUserinfo v) := by
  have hauth : (ofUrl u).auth = true := by
    cases hh : u.host <;> simp_all [Spec.Url.cannotHaveUsernamePasswordPort, ofUrl]
  rw [updateBaseUsername_auth (ofUrl u) _ hauth hna]
  simp [Spec.setUsername, hc, ofUrl, Spec.Url.pathSerialized]

theorem setPassword_refines (u : Spec.Url) (v : Bytes) (hc : u.cannotHaveUsernamePasswordPort = false)
    (hna : TailNoAt (ofUrl u)) :
    layout (ofUrl (Spec.setPassword u v)) = updateBasePassword (layout (ofUrl u)) (Spec.percentEncode Spec.inUserinfo v) := by
  have hauth : (ofUrl u).auth = true := by
    cases hh : u.host <;> simp_all [Spec.Url.cannotHaveUsernamePasswordPort, ofUrl]
  have := updateBasePassword_layout (ofUrl u) (Spec.percentEncode Spec.inUserinfo v) (fun h => by simp [hauth] at h) hna
  rw [this]
  cases hh : u.host <;> simp_all [Spec.setPassword, ofUrl, Spec.Url.pathSerialized, Spec.Url.cannotHaveUsernamePasswordPort]

def dropOne (c : UInt8) (v : Bytes) : Bytes :=
  match v with
  | [] => []
  | b :: rest => if b == c then rest else b :: rest

/-- `set_search` with a non-empty value: strip one '?', remove tab/newline, encode, write in place -/
theorem setSearch_refines (u : Spec.Url) (v : Bytes) (hv : v ≠ []) :
    layout (ofUrl (Spec.setSearch u v)) =
      updateBaseSearch (layout (ofUrl u))
        (Spec.encodeQuery u.isSpecial (Spec.stripTN (dropOne 0x3F v))) := by
  rw [updateBaseSearch_layout]
  rcases v with _ | ⟨b, t⟩
  · exact absurd rfl hv
  · by_cases hb : b = 0x3F
    · subst hb; simp [Spec.setSearch, ofUrl, Spec.Url.pathSerialized, dropOne]
    · have e2 : Spec.setSearch u (b :: t) = { u with query := some (Spec.encodeQuery u.isSpecial (Spec.stripTN (b :: t))) } := by
        unfold Spec.setSearch
        simp only [List.isEmpty_cons, Bool.false_eq_true, ↓reduceIte]
        split
        · rename_i rest heq; injection heq with h1 h2; exact absurd h1 hb
        · rfl
      rw [e2]
      simp [ofUrl, Spec.Url.pathSerialized, dropOne, hb]

theorem setHash_refines (u : Spec.Url) (v : Bytes) (hv : v ≠ []) :
    layout (ofUrl (Spec.setHash u v)) =
      updateBaseHash (layout (ofUrl u))
        (Spec.percentEncode Spec.inFragment (Spec.stripTN (dropOne 0x23 v))) := by
  rw [updateBaseHash_layout]
  rcases v with _ | ⟨b, t⟩
  · exact absurd rfl hv
  · by_cases hb : b = 0x23
    · subst hb; simp [Spec.setHash, ofUrl, Spec.Url.pathSerialized, dropOne]
    · have e2 : Spec.setHash u (b :: t) = { u with fragment := some (Spec.percentEncode Spec.inFragment (Spec.stripTN (b :: t))) } := by
        unfold Spec.setHash
        simp only [List.isEmpty_cons, Bool.false_eq_true, ↓reduceIte]
        split
        · rename_i rest heq; injection heq with h1 h2; exact absurd h1 hb
        · rfl
      rw [e2]
      simp [ofUrl, Spec.Url.pathSerialized, dropOne, hb]

/-- clearing the query of a URL whose path is not opaque (no trailing-space stripping involved) -/
theorem clearSearch_refines (u : Spec.Url) (ho : u.isOpaque = false) :
    layout (ofUrl (Spec.setSearch u [])) = clearSearch (layout (ofUrl u)) := by
  rw [clearSearch_layout]
  simp [Spec.setSearch, Spec.Url.stripTrailingSpaces, ho, ofUrl, Spec.Url.pathSerialized]

theorem clearHash_refines (u : Spec.Url) (ho : u.isOpaque = false) :
    layout (ofUrl (Spec.setHash u [])) = clearHash (layout (ofUrl u)) := by
  rw [clearHash_layout]
  simp [Spec.setHash, Spec.Url.stripTrailingSpaces, ho, ofUrl, Spec.Url.pathSerialized]

end AdaVerif.Lemmas.AggL
