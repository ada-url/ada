import AdaVerif.Model.AggSetters
import AdaVerif.Lemmas.AggSpec
import AdaVerif.Lemmas.Guard
import AdaVerif.Lemmas.RecInv
/-
End-to-end refinement for the component setters: the model of the C++ setter (precondition, encode,
in-place edit, limit check, roll-back) applied to the laid-out record gives the layout of the
Standard's setter result when that fits the limit, and leaves the buffer untouched otherwise.
-/
namespace AdaVerif.Lemmas.AggL
open AdaVerif AdaVerif.Model AdaVerif.Model.Agg

/-- what the record invariants (C19) give about credentials: none without a non-empty host, and a host
    that is present and not the empty host serialises to at least one byte -/
structure CredOk (u : Spec.Url) : Prop where
  hostless : HostlessOk u
  emptyHost : u.host = some .empty → u.username = [] ∧ u.password = []
  nonEmpty : ∀ h, u.host = some h → h ≠ .empty → h.serialize ≠ []

theorem credOk_of_recInv (u : Spec.Url) (h : Spec.RecInv u = true) : CredOk u := by
  have r := (recInv_iff u).1 h
  refine ⟨fun hn => r.nocred (Or.inl hn), fun he => ?_, ?_⟩
  · have := r.nocred (Or.inr (Or.inl he))
    exact ⟨this.1, this.2.1⟩
  · intro x hx hne
    have hwf := r.wf
    rw [hx] at hwf
    cases x with
    | domain d => simpa [Spec.hostWf, Spec.Host.serialize] using hwf
    | opaqueHost d => simpa [Spec.hostWf, Spec.Host.serialize] using hwf
    | ipv4 a => simp [Spec.Host.serialize, Spec.ipv4Serialize]
    | ipv6 p => simp [Spec.Host.serialize]
    | empty => exact absurd rfl hne

theorem hostRegionEmpty_layout (u : Spec.Url) (ok : CredOk u) :
    ((layout (ofUrl u)).hs == (layout (ofUrl u)).he) = (u.host == none || u.host == some .empty) := by
  cases hh : u.host with
  | none =>
    obtain ⟨hu, hp, _⟩ := ok.hostless hh
    exact beq_iff_eq.mpr (by layout_arith [ofUrl, hh, hu, hp, atS_of_empty])
  | some h =>
    by_cases he : h = .empty
    · subst he
      obtain ⟨hu, hp⟩ := ok.emptyHost hh
      exact beq_iff_eq.mpr (by layout_arith [ofUrl, hh, hu, hp, atS_of_empty, Spec.Host.serialize])
    · have hl : 0 < h.serialize.length := List.length_pos_iff.mpr (ok.nonEmpty h hh he)
      have h2 : (some h == some Spec.Host.empty) = false := by simpa using he
      rw [h2]
      exact beq_false_of_ne (by layout_arith [ofUrl, hh])

theorem cannotHaveCredentialsOrPort_ofUrl (u : Spec.Url) (ok : CredOk u) :
    cannotHaveCredentialsOrPort (u.scheme == Spec.bFile) (layout (ofUrl u)) = u.cannotHaveUsernamePasswordPort := by
  unfold cannotHaveCredentialsOrPort Spec.Url.cannotHaveUsernamePasswordPort
  rw [hostRegionEmpty_layout u ok, Bool.or_comm]

theorem port_ofUrl (u : Spec.Url) : (layout (ofUrl u)).port = u.port := by
  rw [layout_port]
  show (u.port.map _).map _ = _
  cases u.port <;> rfl

theorem hasCredentials_layout (u : Spec.Url) (ok : CredOk u) : hasCredentials (layout (ofUrl u)) = u.includesCredentials := by
  unfold hasCredentials Spec.Url.includesCredentials
  rw [hasNonEmptyPassword_layout]
  cases hh : u.host with
  | none =>
    obtain ⟨hu, hp, _⟩ := ok.hostless hh
    simp [hasNonEmptyUsername, layout_pe, layout_ue, ofUrl, hh, hu, hp, authS]
  | some h =>
    rw [hasNonEmptyUsername_layout (ofUrl u) (by simp [ofUrl, hh])]
    rfl

/-- a record that may have a port has a host, so its path needs no "/." in front -/
theorem dashdot_false_of_host (u : Spec.Url) (h : u.host.isSome = true) : (ofUrl u).dashdot = false := by
  cases hh : u.host <;> simp_all [ofUrl]

theorem clearPort_ofUrl (u : Spec.Url) (h : u.host.isSome = true) :
    clearPort (layout (ofUrl u)) = layout (ofUrl { u with port := none }) := by
  rw [clearPort_layout _ (dashdot_false_of_host u h)]
  simp [ofUrl, Spec.Url.pathSerialized]

theorem updateBasePort_ofUrl (u : Spec.Url) (p : Nat) (h : u.host.isSome = true) :
    updateBasePort (layout (ofUrl u)) p (Spec.natToDec p) = layout (ofUrl { u with port := some p }) := by
  rw [updateBasePort_layout _ _ _ (dashdot_false_of_host u h)]
  simp [ofUrl, Spec.Url.pathSerialized]

theorem setScheme_ofUrl (u : Spec.Url) (s : Bytes) : setScheme (layout (ofUrl u)) s = layout (ofUrl { u with scheme := s }) := by
  rw [setScheme_layout (ofUrl u) s (by simp [ofUrl])]
  simp [ofUrl, Spec.Url.pathSerialized]

theorem clearPort_none (l : L) (hp : l.port = none) : clearPort (layout l) = layout l := by
  simp [clearPort, layout, hp]

theorem host_of_can (u : Spec.Url) (h : u.cannotHaveUsernamePasswordPort = false) : u.host.isSome = true := by
  cases hh : u.host <;> simp_all [Spec.Url.cannotHaveUsernamePasswordPort]

theorem credSetter_end_to_end (L : Nat) (u u' : Spec.Url) (ok : CredOk u) (ed : Agg → Agg)
    (h : u.cannotHaveUsernamePasswordPort = false → layout (ofUrl u') = ed (layout (ofUrl u))) :
    (if cannotHaveCredentialsOrPort (u.scheme == Spec.bFile) (layout (ofUrl u)) then (layout (ofUrl u), false)
     else guarded (·.buf.length) L (fun s => some (ed s)) (layout (ofUrl u))) =
      if u.cannotHaveUsernamePasswordPort then (layout (ofUrl u), false)
      else if (layout (ofUrl u')).buf.length ≤ L then (layout (ofUrl u'), true) else (layout (ofUrl u), false) := by
  rw [cannotHaveCredentialsOrPort_ofUrl u ok]
  cases hc : u.cannotHaveUsernamePasswordPort
  · simp only [Bool.false_eq_true, ↓reduceIte, guarded, ← h hc]
  · simp only [↓reduceIte]

theorem setUsername_end_to_end (L : Nat) (u : Spec.Url) (v : Bytes) (ok : CredOk u) (hna : TailNoAt (ofUrl u)) :
    setUsernameM L (u.scheme == Spec.bFile) (layout (ofUrl u)) v =
      if u.cannotHaveUsernamePasswordPort then (layout (ofUrl u), false)
      else if (layout (ofUrl (Spec.setUsername u v))).buf.length ≤ L then (layout (ofUrl (Spec.setUsername u v)), true)
      else (layout (ofUrl u), false) :=
  credSetter_end_to_end L u _ ok _ (fun hc => setUsername_refines u v hc hna)

theorem setPassword_end_to_end (L : Nat) (u : Spec.Url) (v : Bytes) (ok : CredOk u) (hna : TailNoAt (ofUrl u)) :
    setPasswordM L (u.scheme == Spec.bFile) (layout (ofUrl u)) v =
      if u.cannotHaveUsernamePasswordPort then (layout (ofUrl u), false)
      else if (layout (ofUrl (Spec.setPassword u v))).buf.length ≤ L then (layout (ofUrl (Spec.setPassword u v)), true)
      else (layout (ofUrl u), false) :=
  credSetter_end_to_end L u _ ok _ (fun hc => setPassword_refines u v hc hna)

theorem dropLeading_eq (c : UInt8) (v : Bytes) : dropLeading c v = dropOne c v := by
  cases v <;> rfl

theorem setSearch_end_to_end (L : Nat) (u : Spec.Url) (v : Bytes) (hv : v ≠ []) :
    setSearchM L u.isSpecial (layout (ofUrl u)) v =
      if (layout (ofUrl (Spec.setSearch u v))).buf.length ≤ L then layout (ofUrl (Spec.setSearch u v)) else layout (ofUrl u) := by
  simp only [setSearchM, guardedVoid, dropLeading_eq]
  rw [guarded_some _ L _ _ (layout (ofUrl (Spec.setSearch u v))) (by exact congrArg some (setSearch_refines u v hv).symm)]
  split <;> rfl

theorem setHash_end_to_end (L : Nat) (u : Spec.Url) (v : Bytes) (hv : v ≠ []) :
    setHashM L (layout (ofUrl u)) v =
      if (layout (ofUrl (Spec.setHash u v))).buf.length ≤ L then layout (ofUrl (Spec.setHash u v)) else layout (ofUrl u) := by
  simp only [setHashM, guardedVoid, dropLeading_eq]
  rw [guarded_some _ L _ _ (layout (ofUrl (Spec.setHash u v))) (by exact congrArg some (setHash_refines u v hv).symm)]
  split <;> rfl

theorem setPort_digits (u : Spec.Url) (v : Bytes) (c : UInt8) (t : Bytes) (hc : u.cannotHaveUsernamePasswordPort = false)
    (hv : v.isEmpty = false) (ht : Spec.stripTN v = c :: t) (hd : isAsciiDigit c = true)
    (hbig : ¬ Spec.parseRadix 10 ((c :: t).takeWhile isAsciiDigit) > 65535) :
    Spec.setPort u v =
      if Spec.defaultPort u.scheme == some (Spec.parseRadix 10 ((c :: t).takeWhile isAsciiDigit))
      then { u with port := none } else { u with port := some (Spec.parseRadix 10 ((c :: t).takeWhile isAsciiDigit)) } := by
  have hne : ((c :: t).takeWhile isAsciiDigit).isEmpty = false := by simp [List.takeWhile, hd]
  simp only [Spec.setPort, hc, Bool.false_eq_true, ↓reduceIte, hv, ht, Spec.portOverride, hne, hbig]

theorem setPort_end_to_end (L : Nat) (u : Spec.Url) (v : Bytes) (ok : CredOk u) :
    setPortM L (u.scheme == Spec.bFile) (Spec.defaultPort u.scheme) (layout (ofUrl u)) v =
      if u.cannotHaveUsernamePasswordPort then (layout (ofUrl u), false)
      else if v.isEmpty then (layout (ofUrl (Spec.setPort u v)), true)
      else match Spec.stripTN v with
        | [] => (layout (ofUrl u), true)
        | c :: _ =>
          if !isAsciiDigit c then (layout (ofUrl u), false)
          else if Spec.parseRadix 10 ((Spec.stripTN v).takeWhile isAsciiDigit) > 65535 then (layout (ofUrl u), false)
          else if (layout (ofUrl (Spec.setPort u v))).buf.length ≤ L then (layout (ofUrl (Spec.setPort u v)), true)
          else (layout (ofUrl u), false) := by
  unfold setPortM
  rw [cannotHaveCredentialsOrPort_ofUrl u ok]
  cases hc : u.cannotHaveUsernamePasswordPort
  · have hh := host_of_can u hc
    simp only [Bool.false_eq_true, ↓reduceIte]
    by_cases hv : v.isEmpty = true
    · rw [if_pos hv, if_pos hv, clearPort_ofUrl u hh, List.isEmpty_iff.mp hv]
      simp [Spec.setPort, hc]
    · simp only [hv, Bool.false_eq_true, ↓reduceIte]
      cases ht : Spec.stripTN v with
      | nil => simp
      | cons c t =>
        simp only
        by_cases hd : isAsciiDigit c = true
        · simp only [hd, Bool.not_true, Bool.false_eq_true, ↓reduceIte]
          by_cases hbig : Spec.parseRadix 10 ((c :: t).takeWhile isAsciiDigit) > 65535
          · simp [hbig]
          · simp only [hbig, ↓reduceIte]
            rw [setPort_digits u v c t hc (by simpa using hv) ht hd hbig]
            split
            · rw [clearPort_ofUrl u hh]
            · rw [updateBasePort_ofUrl u _ hh]
        · simp [hd]
  · simp

/-- the third refusal of the scheme state reads the host range: a file URL with an empty host -/
theorem fileEmptyHost (u : Spec.Url) (ok : CredOk u) (hfile : u.scheme = Spec.bFile → u.host.isSome = true) :
    ((u.scheme == Spec.bFile) && ((layout (ofUrl u)).hs == (layout (ofUrl u)).he)) =
      (u.scheme == Spec.bFile && u.host == some .empty) := by
  rw [hostRegionEmpty_layout u ok]
  by_cases hf : (u.scheme == Spec.bFile) = true
  · cases hh : u.host with
    | none => have := hfile (by simpa using hf); simp [hh] at this
    | some h => rfl
  · simp [hf]

theorem setProtocolCore_end_to_end (L : Nat) (u : Spec.Url) (s : Bytes) (ok : CredOk u)
    (hfile : u.scheme = Spec.bFile → u.host.isSome = true) :
    (setProtocolCoreM L u.isSpecial (u.scheme == Spec.bFile) (layout (ofUrl u)) s).1 =
      if (layout (ofUrl (Spec.protocolCore u s))).buf.length ≤ L then layout (ofUrl (Spec.protocolCore u s)) else layout (ofUrl u) := by
  unfold setProtocolCoreM Spec.protocolCore
  rw [hasCredentials_layout u ok, port_ofUrl, fileEmptyHost u ok hfile, setScheme_ofUrl, Spec.Url.isSpecial]
  -- the three refusals leave the buffer as it is
  cases (Spec.isSpecialScheme u.scheme != Spec.isSpecialScheme s)
  case true => simp only [↓reduceIte, ite_self]
  cases ((u.includesCredentials || u.port.isSome) && s == Spec.bFile)
  case true => simp only [Bool.false_eq_true, ↓reduceIte, ite_self]
  cases (u.scheme == Spec.bFile && u.host == some .empty)
  case true => simp only [Bool.false_eq_true, ↓reduceIte, ite_self]
  simp only [Bool.false_eq_true, ↓reduceIte, port_ofUrl]
  cases h4 : (u.port.isSome && u.port == Spec.defaultPort s)
  · simp only [Bool.false_eq_true, ↓reduceIte]
    exact apply_ite Prod.fst _ _ _
  · -- a port is only stored next to a host
    have hh : ({ u with scheme := s } : Spec.Url).host.isSome = true := by
      cases hh : u.host with
      | none => rw [(ok.hostless hh).2.2] at h4; cases h4
      | some h => rfl
    simp only [↓reduceIte, clearPort_ofUrl _ hh]
    exact apply_ite Prod.fst _ _ _

end AdaVerif.Lemmas.AggL
