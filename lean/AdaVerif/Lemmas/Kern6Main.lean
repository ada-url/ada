import AdaVerif.Lemmas.Kern6Parse
/-
`url::parse_ipv6` (Model/HostKernels.parseIpv6) = the Standard's IPv6 parser (Spec.ipv6Parse), on every input:
the main loop keeps `address = pad8 (expand pieces compress)`, `piece_index = (expand pieces compress).length`;
where the code gives up early (`piece_index == 8` with `::` seen) the Standard's loop can only end with more than seven
pieces, which its last step rejects; the 45-byte limit of the code excludes only texts the Standard rejects.
-/
namespace AdaVerif.Lemmas.K6
open AdaVerif AdaVerif.Spec AdaVerif.Lemmas AdaVerif.Model.HostKernels AdaVerif.Model.FastScan

theorem setAt_mid1 (l : List Nat) (x y v : Nat) (r : List Nat) : setAt (l ++ x :: y :: r) (l.length + 1) v = l ++ x :: v :: r := by
  induction l with
  | nil => simp [setAt]
  | cons a l ih => simpa [setAt] using ih
theorem getAt_mid1 (l : List Nat) (x y : Nat) (r : List Nat) : getAt (l ++ x :: y :: r) (l.length + 1) = y := by
  induction l with
  | nil => simp [getAt]
  | cons a l ih => simpa [getAt] using ih

theorem pad8_lt (l : List Nat) (h : l.length < 8) : pad8 l = l ++ 0 :: List.replicate (7 - l.length) 0 := by
  unfold pad8
  have : 8 - l.length = (7 - l.length) + 1 := by omega
  rw [this, List.replicate_succ]
theorem pad8_snoc (l : List Nat) (v : Nat) (h : l.length < 8) : pad8 (l ++ [v]) = l ++ v :: List.replicate (7 - l.length) 0 := by
  unfold pad8
  have : 8 - (l ++ [v]).length = 7 - l.length := by simp only [List.length_append, List.length_cons, List.length_nil]; omega
  rw [this]; simp [List.append_assoc]

theorem setAt_pad8 (l : List Nat) (v : Nat) (h : l.length < 8) : setAt (pad8 l) l.length v = pad8 (l ++ [v]) := by
  rw [pad8_lt l h, setAt_mid, pad8_snoc l v h]

theorem applyNums_four (l : List Nat) (a b c d : Nat) (h : l.length ≤ 6) (ha : a ≤ 255) (hb : b ≤ 255) (hc : c ≤ 255) (hd : d ≤ 255) :
    applyNums 0 [a, b, c, d] (pad8 l) l.length = (pad8 (l ++ [a * 256 + b, c * 256 + d]), l.length + 2) := by
  have e1 : pad8 l = l ++ 0 :: 0 :: List.replicate (6 - l.length) 0 := by
    rw [pad8_lt l (by omega)]
    have : 7 - l.length = (6 - l.length) + 1 := by omega
    rw [this, List.replicate_succ]
  have e2 : pad8 (l ++ [a * 256 + b, c * 256 + d]) = l ++ (a * 256 + b) :: (c * 256 + d) :: List.replicate (6 - l.length) 0 := by
    unfold pad8
    have : 8 - (l ++ [a * 256 + b, c * 256 + d]).length = 6 - l.length := by simp only [List.length_append, List.length_cons, List.length_nil]; omega
    rw [this]; simp [List.append_assoc]
  rw [e1, e2]
  have m1 : (0 * 256 + a) % 65536 = a := by rw [Nat.zero_mul, Nat.zero_add]; exact Nat.mod_eq_of_lt (by omega)
  have m2 : (a * 256 + b) % 65536 = a * 256 + b := Nat.mod_eq_of_lt (by omega)
  have m3 : (0 * 256 + c) % 65536 = c := by rw [Nat.zero_mul, Nat.zero_add]; exact Nat.mod_eq_of_lt (by omega)
  have m4 : (c * 256 + d) % 65536 = c * 256 + d := Nat.mod_eq_of_lt (by omega)
  simp only [applyNums, getAt_mid, setAt_mid, m1, m2, Nat.zero_add, Nat.reduceAdd, Nat.reduceBEq, Bool.or_self, Bool.false_eq_true,
    ↓reduceIte, Bool.or_false, Bool.or_true, Bool.true_or]
  simp only [getAt_mid1, setAt_mid1, m3, m4]

theorem readPiece_facts (p : Bytes) (v : Nat) (r : Bytes) (h : readIpv4Piece p = some (v, r)) :
    v ≤ 255 ∧ p.length ≤ r.length + 3 ∧ r.length < p.length := by
  have hrel := v4Piece_readIpv4Piece p
  cases hv : v4Piece p with
  | none => rw [hv] at hrel; simp only at hrel; rw [hrel] at h; cases h
  | some vr =>
    obtain ⟨v', rest⟩ := vr
    rw [hv] at hrel
    obtain ⟨h255, hrd⟩ := hrel
    by_cases hhd : headIsDigit rest = true
    · simp only [hhd, ↓reduceIte] at hrd; rw [hrd] at h; cases h
    · have hhd' : headIsDigit rest = false := by simpa using hhd
      simp only [hhd', Bool.false_eq_true, ↓reduceIte] at hrd
      rw [hrd] at h
      injection h with h; injection h with h1 h2; subst h1; subst h2
      exact ⟨h255, (v4Piece_consumes p _ _ hv).2, (v4Piece_consumes p _ _ hv).1⟩

theorem embeddedRest_facts (n : Nat) : ∀ (nd : Bool) (s : Bytes) (l : List Nat), embeddedRest n nd s = some l →
    l.length = n ∧ (∀ x ∈ l, x ≤ 255) ∧ s.length ≤ 4 * n := by
  induction n with
  | zero =>
    intro nd s l h
    simp only [embeddedRest] at h
    split at h
    · rename_i he; injection h with h; subst h
      have : s = [] := by simpa using he
      subst this; simp
    · cases h
  | succ n ih =>
    intro nd s l h
    simp only [embeddedRest] at h
    split at h
    · cases h
    · rename_i t ht
      have hts : s.length ≤ t.length + 1 := by
        by_cases hnd : nd = true
        · simp only [hnd, ↓reduceIte] at ht
          split at ht
          · injection ht with ht; subst ht; simp
          · cases ht
        · simp only [hnd, Bool.false_eq_true, ↓reduceIte] at ht
          injection ht with ht; subst ht; omega
      split at h
      · cases h
      · rename_i v r hp
        obtain ⟨h255, hb, _⟩ := readPiece_facts t v r hp
        cases hs : embeddedRest n true r with
        | none => rw [hs] at h; cases h
        | some l' =>
          rw [hs] at h
          simp only [Option.map_some] at h
          injection h with h; subst h
          obtain ⟨i1, i2, i3⟩ := ih true r l' hs
          exact ⟨by simp [i1], fun x hx => (List.mem_cons.mp hx).elim (fun e => e ▸ h255) (i2 x), by omega⟩

theorem embeddedRest4_len (s : Bytes) (l : List Nat) (h : embeddedRest 4 false s = some l) : s.length ≤ 15 := by
  unfold embeddedRest at h
  simp only [Bool.false_eq_true, ↓reduceIte] at h
  split at h
  · cases h
  · rename_i v r hp
    obtain ⟨_, hb, _⟩ := readPiece_facts s v r hp
    cases hs : embeddedRest 3 true r with
    | none => rw [hs] at h; cases h
    | some l' =>
      obtain ⟨_, _, i3⟩ := embeddedRest_facts 3 true r l' hs
      omega

def stdBody (f : Nat) (value len : Nat) (after s : Bytes) (pieces : List Nat) (compress : Option Nat) :
    Option (List Nat × Option Nat) :=
  match after with
  | [] => if len == 0 then none else some (pieces ++ [value], compress)
  | a :: after' =>
    if a == 0x2E then
      (if len == 0 then none else if pieces.length > 6 then none
       else match readEmbeddedIpv4 s with
         | none => none
         | some (p1, p2) => some (pieces ++ [p1, p2], compress))
    else if a == 0x3A then
      (if after'.isEmpty then none else if len == 0 then none else ipv6Loop f after' (pieces ++ [value]) compress)
    else none

theorem ipv6Loop_step (f : Nat) (c : UInt8) (rest : Bytes) (pieces : List Nat) (comp : Option Nat) :
    ipv6Loop (f + 1) (c :: rest) pieces comp =
      (if pieces.length == 8 then none
       else if c == 0x3A then (if comp.isSome then none else ipv6Loop f rest pieces (some pieces.length))
       else stdBody f (readHex 4 (c :: rest)).1 (readHex 4 (c :: rest)).2.1 (readHex 4 (c :: rest)).2.2 (c :: rest) pieces comp) := by
  simp only [ipv6Loop]
  generalize readHex 4 (c :: rest) = r
  obtain ⟨value, len, after⟩ := r
  simp only [stdBody]
  by_cases h8 : (pieces.length == 8) = true
  · simp [h8]
  · by_cases hc : (c == 0x3A) = true
    · simp [h8, hc]
    · simp only [h8, hc, Bool.false_eq_true, ↓reduceIte]
      cases after with
      | nil => simp
      | cons a after' =>
        by_cases ha : a = 0x2E
        · subst ha
          simp
          -- what is left differs only in the matcher each definition compiled its `match` to
          rfl
        · by_cases hb : a = 0x3A
          · subst hb; simp
          · have ha' : (a == 0x2E) = false := by simpa using ha
            have hb' : (a == 0x3A) = false := by simpa using hb
            simp only [ha', hb', Bool.false_eq_true, ↓reduceIte]
            split
            · rename_i heq; injection heq with e _; exact absurd e ha
            · rename_i heq; injection heq with e _; exact absurd e hb
            · rename_i heq; cases heq
            · rfl

def codeBody (fuel value length : Nat) (after p : Bytes) (address : List Nat) (pi : Nat) (compress : Option Nat) :
    Option (List Nat × Nat × Option Nat) :=
  match after with
  | [] => if length == 0 then none else v6Loop fuel [] (setAt address pi value) (pi + 1) compress
  | a :: after' =>
    if a == 0x2E then
      (if length == 0 then none else if pi > 6 then none
       else match v4Loop (p.length + 1) p 0 address pi with
         | none => none
         | some (ad, pi', ns) => if ns != 4 then none else some (ad, pi', compress))
    else if length == 0 then none
    else if a == 0x3A then
      (if after'.isEmpty then none else v6Loop fuel after' (setAt address pi value) (pi + 1) compress)
    else none

theorem v6Loop_step (f : Nat) (c : UInt8) (rest : Bytes) (address : List Nat) (pi : Nat) (compress : Option Nat) :
    v6Loop (f + 1) (c :: rest) address pi compress =
      (if pi == 8 then none
       else if c == 0x3A then (if compress.isSome then none else v6Loop f rest address (pi + 1) (some (pi + 1)))
       else codeBody f (readHex 4 (c :: rest)).1 (readHex 4 (c :: rest)).2.1 (readHex 4 (c :: rest)).2.2 (c :: rest) address pi compress) := by
  simp only [v6Loop, parseHexPiece_eq]
  generalize readHex 4 (c :: rest) = r
  obtain ⟨value, len, after⟩ := r
  simp only [codeBody]
  by_cases h8 : (pi == 8) = true
  · simp [h8]
  · by_cases hc : (c == 0x3A) = true
    · simp [h8, hc]
    · simp only [h8, hc, Bool.false_eq_true, ↓reduceIte]
      cases after with
      | nil => simp
      | cons a after' =>
        by_cases ha : a = 0x2E
        · subst ha
          simp
          rfl
        · by_cases hb : a = 0x3A
          · subst hb; simp
          · have ha' : (a == 0x2E) = false := by simpa using ha
            have hb' : (a == 0x3A) = false := by simpa using hb
            simp only [ha', hb', Bool.false_eq_true, ↓reduceIte]
            split
            · rename_i heq; injection heq with e _; exact absurd e ha
            · split
              · rfl
              · split
                · rename_i heq; injection heq with e _; exact absurd e hb
                · rename_i heq; cases heq
                · rfl

theorem readHex_len (m : Nat) : ∀ (s : Bytes) (v l : Nat),
    s.length + l = (readHex m s v l).2.1 + (readHex m s v l).2.2.length ∧ l ≤ (readHex m s v l).2.1 ∧ (readHex m s v l).2.1 ≤ l + m := by
  induction m with
  | zero => intro s v l; rw [V6.readHex_zero]; simp; omega
  | succ m ih =>
    intro s v l
    cases s with
    | nil => simp [readHex]
    | cons b rest =>
      unfold readHex
      by_cases hb : isAsciiHexDigit b = true
      · simp only [hb, ↓reduceIte]
        have := ih rest (v * 16 + hexVal b) (l + 1)
        simp only [List.length_cons]
        omega
      · simp [hb]; omega

/-- a piece accounts for at most five bytes of text (four digits and a colon; 15 bytes for the two pieces of an
    embedded IPv4), with one byte more for `::` -/
theorem ipv6Loop_facts (f : Nat) : ∀ (s : Bytes) (ps : List Nat) (comp : Option Nat) (ps' : List Nat) (comp' : Option Nat),
    ipv6Loop f s ps comp = some (ps', comp') →
    (∀ k, comp = some k → comp' = some k ∧ (s ≠ [] → ps.length < ps'.length)) ∧ ps.length ≤ ps'.length ∧
    s.length + 5 * ps.length ≤ 5 * ps'.length + 5 + (if comp.isNone && comp'.isSome then 1 else 0) := by
  induction f with
  | zero => intro s ps comp ps' comp' h; simp [ipv6Loop] at h
  | succ f ih =>
    intro s ps comp ps' comp' h
    cases s with
    | nil =>
      rw [V6.loop_end] at h
      injection h with h; injection h with h1 h2; subst h1; subst h2
      refine ⟨fun k hk => ⟨hk, fun hne => absurd rfl hne⟩, Nat.le_refl _, ?_⟩
      simp only [List.length_nil, Nat.zero_add]
      exact Nat.le_trans (by omega) (Nat.le_add_right _ _)
    | cons c rest =>
      rw [ipv6Loop_step] at h
      split at h; · cases h
      split at h
      · split at h; · cases h
        rename_i hcs
        have hcn : comp = none := by
          cases comp with
          | none => rfl
          | some k => simp at hcs
        subst hcn
        obtain ⟨i1, i2, i3⟩ := ih _ _ _ _ _ h
        have j := (i1 _ rfl).1
        subst j
        refine ⟨fun k hk => (nomatch hk), i2, ?_⟩
        simp only [List.length_cons, Option.isNone_none, Option.isSome_some, Bool.and_self, ↓reduceIte] at i3 ⊢
        simp only [Option.isNone_some, Bool.false_and, Bool.false_eq_true, ↓reduceIte] at i3
        omega
      · have hrl := readHex_len 4 (c :: rest) 0 0
        generalize (readHex 4 (c :: rest)).1 = value at hrl h
        generalize (readHex 4 (c :: rest)).2.1 = len at hrl h
        generalize (readHex 4 (c :: rest)).2.2 = after at hrl h
        simp only [Nat.add_zero, Nat.zero_add, List.length_cons] at hrl ⊢
        unfold stdBody at h
        split at h
        · split at h; · cases h
          injection h with h; injection h with h1 h2; subst h1; subst h2
          simp only [List.length_nil, Nat.add_zero] at hrl
          simp only [List.length_append, List.length_cons, List.length_nil]
          refine ⟨fun k hk => ⟨hk, fun _ => by omega⟩, by omega, by omega⟩
        · split at h
          · split at h; · cases h
            split at h; · cases h
            split at h; · cases h
            rename_i p1 p2 hre
            injection h with h; injection h with h1 h2; subst h1; subst h2
            rw [readEmbedded_rest] at hre
            cases hs : embeddedRest 4 false (c :: rest) with
            | none => rw [hs] at hre; cases hre
            | some ls =>
              have := embeddedRest4_len (c :: rest) ls hs
              simp only [List.length_append, List.length_cons, List.length_nil] at this ⊢
              refine ⟨fun k hk => ⟨hk, fun _ => by omega⟩, by omega, by omega⟩
          · split at h
            · split at h; · cases h
              split at h; · cases h
              obtain ⟨i1, i2, i3⟩ := ih _ _ _ _ _ h
              simp only [List.length_append, List.length_cons, List.length_nil] at i2 i3 hrl ⊢
              refine ⟨fun k hk => ⟨(i1 k hk).1, fun _ => by omega⟩, by omega, by omega⟩
            · cases h

/-- after `::`, with seven pieces read and input left, the Standard's parser can only fail -/
theorem spec_dead (f : Nat) (s : Bytes) (ps : List Nat) (k : Nat) (hs : s ≠ []) (h7 : 7 ≤ ps.length) :
    V6.finish (ipv6Loop f s ps (some k)) = none := by
  cases h : ipv6Loop f s ps (some k) with
  | none => rfl
  | some r =>
    obtain ⟨ps', c'⟩ := r
    obtain ⟨i1, i3⟩ := (ipv6Loop_facts f s ps (some k) ps' c' h).1 k rfl
    subst i1
    have := i3 hs
    simp only [V6.finish]
    have : ps'.length > 7 := by omega
    simp [this]

def CompOk (pieces : List Nat) (comp : Option Nat) : Prop := ∀ k, comp = some k → k ≤ pieces.length

theorem expand_len (pieces : List Nat) (comp : Option Nat) (h : CompOk pieces comp) :
    (expand pieces comp).length = pieces.length + (if comp.isSome then 1 else 0) := by
  cases comp with
  | none => simp [expand]
  | some k => have := h k rfl; simp [expand]; omega

theorem expand_append (pieces l : List Nat) (comp : Option Nat) (h : CompOk pieces comp) :
    expand (pieces ++ l) comp = expand pieces comp ++ l := by
  cases comp with
  | none => simp [expand]
  | some k =>
    have := h k rfl
    simp only [expand]
    rw [List.take_append_of_le_length this, List.drop_append_of_le_length this]
    simp

theorem compOk_append (pieces l : List Nat) (comp : Option Nat) (h : CompOk pieces comp) : CompOk (pieces ++ l) comp := by
  intro k hk; have := h k hk; simp; omega

theorem finC_expand (ps : List Nat) (comp : Option Nat) (h : CompOk ps comp) (h8 : (expand ps comp).length ≤ 8) :
    finC (pad8 (expand ps comp)) (expand ps comp).length (comp.map (· + 1)) = V6.finish (some (ps, comp)) := by
  have hl := expand_len ps comp h
  cases comp with
  | none => exact finC_expand_none ps (by simpa [expand] using h8)
  | some k =>
    simp only [Option.isSome_some, ↓reduceIte] at hl
    exact finC_expand_some ps k (h k rfl) (by omega)

theorem pad8_zero (l : List Nat) (h : l.length < 8) : pad8 (l ++ [0]) = pad8 l := by
  rw [pad8_snoc l 0 h, pad8_lt l h]

theorem expand_here (pieces : List Nat) : expand pieces (some pieces.length) = pieces ++ [0] := by
  simp [expand]

theorem v4Loop_readEmbedded (l : List Nat) (p : Bytes) (h6 : l.length ≤ 6) :
    (v4Loop (p.length + 1) p 0 (pad8 l) l.length).bind (fun r => if r.2.2 != 4 then none else some (r.1, r.2.1)) =
      (readEmbeddedIpv4 p).map (fun q => (pad8 (l ++ [q.1, q.2]), l.length + 2)) := by
  rw [v4Loop_rest 4 (p.length + 1) p 0 rfl (pad8 l) l.length (by omega), readEmbedded_rest]
  have hd : decide (0 > 0) = false := by decide
  rw [hd]
  cases hs : embeddedRest 4 false p with
  | none => simp
  | some ls =>
    obtain ⟨i1, i2, _⟩ := embeddedRest_facts 4 false p ls hs
    match ls, i1, i2 with
    | [a, b, c, d], _, i2 =>
      have ha := i2 a (by simp)
      have hb := i2 b (by simp)
      have hc := i2 c (by simp)
      have hd := i2 d (by simp)
      simp only [Option.map_some, Option.bind_some, toPair]
      rw [applyNums_four l a b c d h6 ha hb hc hd]

theorem v4Result_map (o : Option (List Nat × Nat × Nat)) (compress : Option Nat) :
    (match o with
     | none => none
     | some (ad, pi', ns) => if ns != 4 then none else some (ad, pi', compress)) =
    (o.bind (fun r => if r.2.2 != 4 then none else some (r.1, r.2.1))).map (fun q => (q.1, q.2, compress)) := by
  cases o with
  | none => rfl
  | some r =>
    obtain ⟨ad, pi', ns⟩ := r
    simp only [Option.bind_some]
    split <;> simp

theorem loops_agree_end (g : Nat) (hg : 0 < g) (ps : List Nat) (comp : Option Nat) (h : CompOk ps comp) (h8 : (expand ps comp).length ≤ 8) :
    (v6Loop g [] (pad8 (expand ps comp)) (expand ps comp).length (comp.map (· + 1))).bind (fun r => finC r.1 r.2.1 r.2.2) =
      V6.finish (some (ps, comp)) := by
  cases g with
  | zero => omega
  | succ g =>
    simp only [v6Loop, Option.bind_some]
    exact finC_expand ps comp h h8

/-- by induction on a bound `n` on the input; the fuels `f`, `f'` of the two loops are different functions of the input
    length, so they are only required to exceed it -/
theorem loops_agree (n : Nat) : ∀ (s : Bytes) (f f' : Nat) (pieces : List Nat) (comp : Option Nat),
    s.length ≤ n → s.length < f → s.length < f' → CompOk pieces comp → (expand pieces comp).length ≤ 8 →
    (v6Loop f s (pad8 (expand pieces comp)) (expand pieces comp).length (comp.map (· + 1))).bind (fun r => finC r.1 r.2.1 r.2.2) =
      V6.finish (ipv6Loop f' s pieces comp) := by
  induction n with
  | zero =>
    intro s f f' pieces comp hn hf hf' hok h8
    have : s = [] := List.eq_nil_of_length_eq_zero (by omega)
    subst this
    cases f' with
    | zero => simp at hf'
    | succ g' => rw [V6.loop_end]; exact loops_agree_end f (by simpa using hf) pieces comp hok h8
  | succ n ih =>
    intro s f f' pieces comp hn hf hf' hok h8
    cases s with
    | nil =>
      cases f' with
      | zero => simp at hf'
      | succ g' => rw [V6.loop_end]; exact loops_agree_end f (by simpa using hf) pieces comp hok h8
    | cons c rest =>
      have hl := expand_len pieces comp hok
      cases f with
      | zero => simp at hf
      | succ g =>
      cases f' with
      | zero => simp at hf'
      | succ g' =>
      simp only [List.length_cons] at hn hf hf'
      by_cases hpi8 : (expand pieces comp).length = 8
      · -- the code gives up: piece_index == 8
        rw [v6Loop_step]
        simp only [hpi8, beq_self_eq_true, ↓reduceIte, Option.bind_none]
        cases comp with
        | none =>
          have : pieces.length = 8 := by simpa [expand] using hpi8
          rw [ipv6Loop_step]; simp [this, V6.finish]
        | some k =>
          simp only [Option.isSome_some, ↓reduceIte] at hl
          exact (spec_dead (g' + 1) (c :: rest) pieces k (by simp) (by omega)).symm
      · have hpl : pieces.length < 8 := by
          have : pieces.length ≤ (expand pieces comp).length := by rw [hl]; omega
          omega
        have hL8 : (expand pieces comp).length < 8 := by omega
        have e1 : ((expand pieces comp).length == 8) = false := by simpa using hpi8
        have e2 : (pieces.length == 8) = false := by simp; omega
        rw [v6Loop_step, ipv6Loop_step]
        simp only [e1, e2, Bool.false_eq_true, ↓reduceIte]
        by_cases hc : (c == 0x3A) = true
        · simp only [hc, ↓reduceIte]
          cases comp with
          | some k => simp [V6.finish]
          | none =>
            simp only [Option.map_none, Option.isSome_none, Bool.false_eq_true, ↓reduceIte]
            have hex : expand pieces none = pieces := rfl
            have := ih rest g g' pieces (some pieces.length) (by omega) (by omega) (by omega)
              (by intro k hk; injection hk with hk; omega) (by rw [expand_here]; simp; omega)
            rw [expand_here, pad8_zero pieces hpl] at this
            simp only [List.length_append, List.length_cons, List.length_nil, Option.map_some, Nat.zero_add] at this
            rw [hex]
            exact this
        · simp only [hc, Bool.false_eq_true, ↓reduceIte]
          have hrl := readHex_len 4 (c :: rest) 0 0
          generalize (readHex 4 (c :: rest)).1 = value at hrl ⊢
          generalize (readHex 4 (c :: rest)).2.1 = len at hrl ⊢
          generalize (readHex 4 (c :: rest)).2.2 = after at hrl ⊢
          simp only [List.length_cons, Nat.add_zero, Nat.zero_add] at hrl
          unfold codeBody stdBody
          have hstep : setAt (pad8 (expand pieces comp)) (expand pieces comp).length value = pad8 (expand (pieces ++ [value]) comp) := by
            rw [setAt_pad8 _ _ hL8, expand_append _ _ _ hok]
          have hlen' : (expand (pieces ++ [value]) comp).length = (expand pieces comp).length + 1 := by
            rw [expand_append _ _ _ hok]; simp
          cases after with
          | nil =>
            by_cases hl0 : (len == 0) = true
            · simp [hl0, V6.finish]
            · simp only [hl0, Bool.false_eq_true, ↓reduceIte]
              rw [hstep, ← hlen']
              exact loops_agree_end g (by omega) (pieces ++ [value]) comp (compOk_append _ _ _ hok) (by omega)
          | cons a after' =>
            by_cases hl0 : (len == 0) = true
            · simp only [hl0, ↓reduceIte]
              by_cases ha : (a == 0x2E) = true
              · simp [ha, V6.finish]
              · by_cases hb : (a == 0x3A) = true
                · simp [ha, hb, V6.finish]
                · simp [ha, hb, V6.finish]
            · simp only [hl0, Bool.false_eq_true, ↓reduceIte]
              by_cases ha : (a == 0x2E) = true
              · simp only [ha, ↓reduceIte]
                by_cases hm6 : (expand pieces comp).length > 6
                · simp only [hm6, ↓reduceIte, Option.bind_none]
                  by_cases hs6 : pieces.length > 6
                  · simp [hs6, V6.finish]
                  · simp only [hs6, ↓reduceIte]
                    -- `::` was seen and six pieces were read: two more make eight, which the last step rejects
                    cases comp with
                    | none => simp [expand] at hm6; omega
                    | some k =>
                      cases hre : readEmbeddedIpv4 (c :: rest) with
                      | none => simp [V6.finish]
                      | some q =>
                        obtain ⟨p1, p2⟩ := q
                        simp only [Option.isSome_some, ↓reduceIte] at hl
                        have : (pieces ++ [p1, p2]).length > 7 := by simp; omega
                        simp only [V6.finish, this, ↓reduceIte]
                · have hs6 : ¬ pieces.length > 6 := by
                    have : pieces.length ≤ (expand pieces comp).length := by rw [hl]; omega
                    omega
                  simp only [hm6, hs6, ↓reduceIte]
                  rw [v4Result_map]
                  have hv := v4Loop_readEmbedded (expand pieces comp) (c :: rest) (by omega)
                  rw [hv]
                  cases hre : readEmbeddedIpv4 (c :: rest) with
                  | none => simp [V6.finish]
                  | some q =>
                    obtain ⟨p1, p2⟩ := q
                    simp only [Option.map_some, Option.bind_some]
                    have hfe := finC_expand (pieces ++ [p1, p2]) comp (compOk_append _ _ _ hok)
                      (by rw [expand_append _ _ _ hok]; simp; omega)
                    rw [expand_append _ _ _ hok] at hfe
                    simp only [List.length_append, List.length_cons, List.length_nil, Nat.zero_add] at hfe
                    exact hfe
              · simp only [ha, Bool.false_eq_true, ↓reduceIte]
                by_cases hb : (a == 0x3A) = true
                · simp only [hb, ↓reduceIte]
                  by_cases he : after'.isEmpty = true
                  · simp [he, V6.finish]
                  · simp only [he, Bool.false_eq_true, ↓reduceIte]
                    rw [hstep, ← hlen']
                    simp only [List.length_cons] at hrl
                    exact ih after' g g' (pieces ++ [value]) comp (by omega) (by omega) (by omega)
                      (compOk_append _ _ _ hok) (by omega)
                · simp [hb, V6.finish]

/-- what the Standard's parser accepts is at most 45 bytes long (so `input.size() > 45` rejects nothing valid) -/
theorem spec_len45 (s : Bytes) (a : List Nat) (h : ipv6Parse s = some a) : s.length ≤ 45 := by
  cases s with
  | nil => simp
  | cons b t =>
    by_cases hb : b = 0x3A
    · subst hb
      cases t with
      | nil => simp
      | cons b2 t2 =>
        by_cases hb2 : b2 = 0x3A
        · subst hb2
          rw [V6.parse_coloncolon] at h
          cases hl : ipv6Loop ((0x3A :: 0x3A :: t2 : Bytes).length + 1) t2 [] (some 0) with
          | none => rw [hl] at h; cases h
          | some r =>
            obtain ⟨ps', c'⟩ := r
            rw [hl] at h
            obtain ⟨g, _, i0⟩ := ipv6Loop_facts _ _ _ _ _ _ hl
            have i1 := (g _ rfl).1
            subst i1
            simp only [V6.finish] at h
            split at h; · cases h
            simp only [List.length_nil, Nat.mul_zero, Nat.add_zero, Option.isNone_some, Bool.false_and, Bool.false_eq_true, ↓reduceIte] at i0
            simp only [List.length_cons]
            omega
        · exfalso
          unfold ipv6Parse at h
          split at h
          · rename_i heq; injection heq with _ e; injection e with e _; exact hb2 e
          · simp at h
          · rename_i hno; exact hno (b2 :: t2) rfl
    · rw [V6.parse_nocolon b t hb] at h
      cases hl : ipv6Loop ((b :: t).length + 1) (b :: t) [] none with
      | none => rw [hl] at h; cases h
      | some r =>
        obtain ⟨ps', c'⟩ := r
        rw [hl] at h
        have i0 := (ipv6Loop_facts _ _ _ _ _ _ hl).2.2
        simp only [List.length_nil, Nat.mul_zero, Nat.add_zero, Option.isNone_none, Bool.true_and] at i0
        cases c' with
        | none =>
          simp only [V6.finish] at h
          split at h
          · rename_i h8
            have : ps'.length = 8 := by simpa using h8
            simp only [Option.isSome_none, Bool.false_eq_true, ↓reduceIte] at i0
            omega
          · cases h
        | some k =>
          simp only [V6.finish] at h
          split at h; · cases h
          simp only [Option.isSome_some, ↓reduceIte] at i0
          omega

theorem spec_long (s : Bytes) (h : s.length > 45) : ipv6Parse s = none := by
  cases hp : ipv6Parse s with
  | none => rfl
  | some a => have := spec_len45 s a hp; omega

theorem parseIpv6_eq (input : Bytes) : parseIpv6 input = ipv6Parse input := by
  cases input with
  | nil => simp [parseIpv6, ipv6Parse, ipv6Loop]
  | cons b t =>
    by_cases hlen : (b :: t).length > 45
    · rw [spec_long _ hlen]
      have hcond : ((b :: t).isEmpty || decide ((b :: t).length > 45)) = true := by
        simp only [List.isEmpty_cons, Bool.false_or, decide_eq_true_eq]; exact hlen
      unfold parseIpv6
      simp only [hcond, ↓reduceIte]
    · have hcond : ((b :: t).isEmpty || decide ((b :: t).length > 45)) = false := by simp; simpa using hlen
      by_cases hb : b = 0x3A
      · subst hb
        cases t with
        | nil => simp [parseIpv6, ipv6Parse, v6Start]
        | cons b2 t2 =>
          by_cases hb2 : b2 = 0x3A
          · subst hb2
            rw [V6.parse_coloncolon]
            unfold parseIpv6
            simp only [hcond, Bool.false_eq_true, ↓reduceIte, v6Start, beq_self_eq_true]
            exact loops_agree t2.length t2 ((0x3A :: 0x3A :: t2 : Bytes).length + 1) ((0x3A :: 0x3A :: t2 : Bytes).length + 1) [] (some 0)
              (Nat.le_refl _) (by simp; omega) (by simp; omega) (by intro k hk; injection hk with hk; omega) (by simp [expand])
          · have hs : ipv6Parse (0x3A :: b2 :: t2) = none := by
              unfold ipv6Parse
              split
              · rename_i heq; injection heq with _ e; injection e with e _; exact absurd e hb2
              · rfl
              · rename_i hno; exact absurd rfl (hno (b2 :: t2))
            rw [hs]
            have hb2' : (b2 == 0x3A) = false := by simpa using hb2
            unfold parseIpv6
            simp [hcond, v6Start, hb2']
      · rw [V6.parse_nocolon b t hb]
        have hb' : (b == 0x3A) = false := by simpa using hb
        unfold parseIpv6
        simp only [hcond, Bool.false_eq_true, ↓reduceIte, v6Start, hb']
        exact loops_agree (b :: t).length (b :: t) ((b :: t).length + 1) ((b :: t).length + 1) [] none
          (Nat.le_refl _) (by omega) (by omega) (by intro k hk; cases hk) (by simp [expand])

end AdaVerif.Lemmas.K6
