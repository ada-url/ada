/-
The lexicographic order on decimal digit strings of one length is the order of their values.
-/
namespace AdaVerif.Lemmas

/-- Decimal digit strings of one length: `code x = o + dv x` is the character code of the digit `dv x`.  Comparing the values
    (left folds from `p` and `q`) is comparing `p` and `q`, then the codes lexicographically. -/
theorem decimal_lt_iff {α : Type} (code dv : α → Nat) (o : Nat) :
    ∀ (s t : List α), s.length = t.length → (∀ x ∈ s, code x = o + dv x ∧ dv x < 10) → (∀ x ∈ t, code x = o + dv x ∧ dv x < 10) →
    ∀ p q : Nat, (s.foldl (fun acc x => acc * 10 + dv x) p < t.foldl (fun acc x => acc * 10 + dv x) q ↔
      p < q ∨ p = q ∧ s.map code < t.map code)
  | [], [], _, _, _, p, q => by simp
  | x :: s, y :: t, hl, hs, ht, p, q => by
    have hx := hs x (by simp)
    have hy := ht y (by simp)
    rw [List.foldl_cons, List.foldl_cons,
      decimal_lt_iff code dv o s t (by simpa using hl) (fun z hz => hs z (by simp [hz])) (fun z hz => ht z (by simp [hz])),
      List.map_cons, List.map_cons, List.cons_lt_cons_iff, hx.1, hy.1]
    by_cases h : s.map code < t.map code
    · simp only [h, and_true]; omega
    · simp only [h, and_false, or_false]; omega

theorem decimal_lex_iff {α : Type} (code dv : α → Nat) (o : Nat) (s t : List α) (hl : s.length = t.length)
    (hs : ∀ x ∈ s, code x = o + dv x ∧ dv x < 10) (ht : ∀ x ∈ t, code x = o + dv x ∧ dv x < 10) :
    s.map code < t.map code ↔ s.foldl (fun acc x => acc * 10 + dv x) 0 < t.foldl (fun acc x => acc * 10 + dv x) 0 := by
  rw [decimal_lt_iff code dv o s t hl hs ht 0 0]
  simp

end AdaVerif.Lemmas
