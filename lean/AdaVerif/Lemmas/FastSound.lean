import AdaVerif.Lemmas.FastPort
/-
C08: soundness of the fast scanner.  Whenever `try_can_parse_absolute_fast` gives a definite answer, that answer is
whether the basic URL parser accepts the input without a base -- for every input and every IDNA parameter.
-/
namespace AdaVerif.Lemmas.FS
open AdaVerif AdaVerif.Spec AdaVerif.Lemmas AdaVerif.Model AdaVerif.Model.FastScan

theorem preprocess_trim (input : Bytes) : preprocess input = (trim input).filter (fun b => !isTabOrNewline b) := rfl

theorem parse_none_of_noscheme (idna : Idna) (input : Bytes)
    (h : takeScheme (cutAt 0x3F (cutAt 0x23 (preprocess input)).1).1 = none) : parse idna input none = none := by
  unfold parse
  simp only
  unfold parseCore
  simp [h]

theorem isWs_tn (b : UInt8) (h : isWs b = false) : isTabOrNewline b = false := by
  cases htn : isTabOrNewline b with
  | false => rfl
  | true =>
    simp only [isTabOrNewline, Bool.or_eq_true, beq_iff_eq] at htn
    rcases htn with (rfl | rfl) | rfl <;> cases h

theorem trim_head (s : Bytes) (b : UInt8) (h : (trim s).head? = some b) : isWs b = false := by
  unfold trim at h
  have hpre : ((s.dropWhile isWs).reverse.dropWhile isWs).reverse <+: s.dropWhile isWs := by
    have := List.dropWhile_suffix isWs (l := (s.dropWhile isWs).reverse)
    have := List.reverse_prefix.mpr this
    simpa using this
  obtain ⟨r, hr⟩ := hpre
  cases hx : ((s.dropWhile isWs).reverse.dropWhile isWs).reverse with
  | nil => rw [hx] at h; cases h
  | cons a t =>
    rw [hx] at h hr
    simp only [List.head?_cons, Option.some.injEq] at h
    subst h
    have := List.head?_dropWhile_not isWs s
    rw [← hr] at this
    simpa using this

theorem filter_keep_head (b : UInt8) (rest : Bytes) (hb : isTabOrNewline b = false) :
    (b :: rest).filter (fun x => !isTabOrNewline x) = b :: rest.filter (fun x => !isTabOrNewline x) := by
  simp [List.filter_cons, hb]

theorem filter_clean (l : Bytes) (h : ∀ b ∈ l, isTabOrNewline b = false) : l.filter (fun x => !isTabOrNewline x) = l := by
  rw [List.filter_eq_self]; intro b hb; simp [h b hb]

theorem parse_none_not_alpha (idna : Idna) (input : Bytes) (b0 : UInt8) (rest : Bytes) (ht : trim input = b0 :: rest)
    (ha : isAsciiAlpha b0 = false) : parse idna input none = none := by
  apply parse_none_of_noscheme
  have hws := trim_head input b0 (by rw [ht]; rfl)
  rw [preprocess_trim, ht, filter_keep_head b0 rest (isWs_tn b0 hws)]
  have := cuts_head (b0 :: rest.filter (fun x => !isTabOrNewline x))
  simp only at this
  rcases this with h | h
  · rw [h]; rfl
  · generalize (cutAt 0x3F (cutAt 0x23 (b0 :: rest.filter (fun x => !isTabOrNewline x))).1).1 = X at h
    cases X with
    | nil => rfl
    | cons x xs =>
      have : x = b0 := by simpa using h.1
      subst this
      simp [takeScheme, ha]

theorem parse_none_reject (idna : Idna) (input : Bytes) (b0 : UInt8) (pre : Bytes) (c : UInt8) (rest : Bytes)
    (ht : trim input = b0 :: (pre ++ c :: rest)) (ha : isAsciiAlpha b0 = true)
    (hpre : ∀ b ∈ pre, isSchemeChar b = true) (hc1 : c ≠ 0x3A) (hc2 : isSchemeChar c = false) (hc3 : isTabNl c = false) :
    parse idna input none = none := by
  apply parse_none_of_noscheme
  have hA : ∀ b ∈ b0 :: pre, isSchemeChar b = true := by
    intro b hb
    rcases List.mem_cons.mp hb with rfl | hb
    · exact (lower_alpha b ha).2
    · exact hpre b hb
  have hAtn : ∀ b ∈ b0 :: pre, isTabOrNewline b = false := fun b hb => (schemeChar_facts b (hA b hb)).2.2
  have hctn : isTabOrNewline c = false := by simpa [isTabNl, isTabOrNewline] using hc3
  have hs : preprocess input = (b0 :: pre) ++ (c :: rest.filter (fun x => !isTabOrNewline x)) := by
    rw [preprocess_trim, ht, show b0 :: (pre ++ c :: rest) = (b0 :: pre) ++ (c :: rest) from rfl, List.filter_append,
      filter_clean _ hAtn, filter_keep_head c rest hctn]
  rw [hs]
  have hc1' := cutAt_append_notin 0x23 (b0 :: pre) (c :: rest.filter (fun x => !isTabOrNewline x))
    (fun hm => (schemeChar_facts _ (hA _ hm)).2.1 rfl)
  rw [hc1']
  simp only
  have hc2' := cutAt_append_notin 0x3F (b0 :: pre) (cutAt 0x23 (c :: rest.filter (fun x => !isTabOrNewline x))).1
    (fun hm => (schemeChar_facts _ (hA _ hm)).1 rfl)
  rw [hc2']
  simp only
  have hY := cuts_head (c :: rest.filter (fun x => !isTabOrNewline x))
  simp only at hY
  generalize (cutAt 0x3F (cutAt 0x23 (c :: rest.filter (fun x => !isTabOrNewline x))).1).1 = Y at hY
  have hYhead : ∀ y ys, Y = y :: ys → y = c := by
    intro y ys e
    rcases hY with h | h
    · rw [h] at e; cases e
    · rw [e] at h; simpa using h.1
  -- the scheme scan stops at the end of `b0 :: pre`, where no ':' follows
  unfold takeScheme
  simp only [List.cons_append, ha, Bool.not_true, Bool.false_eq_true, ↓reduceIte]
  have htw : (b0 :: (pre ++ Y)).takeWhile isSchemeChar = b0 :: pre := by
    rw [show b0 :: (pre ++ Y) = (b0 :: pre) ++ Y from rfl]
    cases Y with
    | nil => rw [List.append_nil]; exact takeWhile_eq_self _ _ hA
    | cons y ys =>
      have := hYhead y ys rfl
      subst this
      exact takeWhile_append_stop _ _ _ _ hA hc2
  rw [htw]
  have hd : (b0 :: (pre ++ Y)).drop (b0 :: pre).length = Y := by
    rw [show b0 :: (pre ++ Y) = (b0 :: pre) ++ Y from rfl]; exact List.drop_left' rfl
  rw [hd]
  cases Y with
  | nil => rfl
  | cons y ys =>
    have := hYhead y ys rfl
    subst this
    split
    · rename_i heq; injection heq with e _; exact absurd e hc1
    · rfl

theorem generalScheme_inl (idna : Idna) (input : Bytes) (b : Bool) (h : generalScheme (trim input) = .inl (some b)) :
    b = false ∧ parse idna input none = none := by
  unfold generalScheme at h
  split at h
  · rename_i ht
    injection h with h; injection h with h
    refine ⟨h.symm, ?_⟩
    apply parse_none_of_noscheme
    rw [preprocess_trim, ht]; rfl
  · rename_i b0 rest ht
    split at h
    · rename_i halpha
      injection h with h; injection h with h
      have ha : isAsciiAlpha b0 = false := by rw [← isAlpha_eq]; simpa using halpha
      exact ⟨h.symm, parse_none_not_alpha idna input b0 rest ht ha⟩
    · rename_i halpha
      have ha : isAsciiAlpha b0 = true := by rw [← isAlpha_eq]; simpa using halpha
      split at h
      · cases h
      · rename_i hrej
        injection h with h; injection h with h
        obtain ⟨pre, c, rest', e1, e2, e3, e4, e5⟩ := findColon_reject rest 1 hrej
        exact ⟨h.symm, parse_none_reject idna input b0 pre c rest' (by rw [ht, e1]) ha e2 e3 e4 e5⟩
      · simp only at h
        split at h; · cases h
        split at h; · cases h
        split at h <;> cases h

/-- the scanner's answer once the authority has been scanned up to `authEnd`: the text of `fastScan` after its
    `match authScan …`, copied so that it can be named (`fastScan_eq` is `rfl` and breaks if the model changes) -/
def answer (t : Bytes) (authStart authEnd : Nat) (st : AuthSt) : Option Bool :=
  let hostEnd := st.portColon.getD authEnd
  if authStart == hostEnd then some false else
  let host := (t.drop authStart).take (hostEnd - authStart)
  let portCheck : Option Bool :=
    match st.portColon with
    | some pc => if FastScan.portOk ((t.drop (pc + 1)).take (authEnd - pc - 1)) then some true else some false
    | none => some true
  if st.allDecDots then
    if (ipv4Fast host).isSome then portCheck else none
  else
    let lc := lo st.lastNonDot
    if isDigit st.lastNonDot || (0x61 ≤ lc.toNat && lc.toNat ≤ 0x66) || lc == 0x78 then none
    else portCheck

/-- the scanner after the scheme has been found (`skip_extra_slashes:` onwards) -/
def cont (t : Bytes) (pos : Nat) : Option Bool :=
  let after := (t.drop pos).dropWhile (fun b => b == 0x2F || b == 0x5C)
  let authStart := t.length - after.length
  if after.head? == some 0x5B then none else
  match authScan after authStart {} with
  | .inl r => r
  | .inr (authEnd, st) => answer t authStart authEnd st

theorem fastScan_eq (input : Bytes) :
    fastScan input =
      (if (trim input).isEmpty then some false else
        match (match httpShortcut (trim input) with
               | some p => (Sum.inr p : Sum (Option Bool) Nat)
               | none => generalScheme (trim input)) with
        | .inl r => r
        | .inr pos => cont (trim input) pos) := rfl

/-- the scanner's answer in terms of the host and port texts: no host, no URL; a host the scanner can judge
    (four decimal parts, or a text that cannot end in a number) leaves the port check; any other host is left to
    the parser -/
def verdict (host : Bytes) (port : Option Bytes) : Option Bool :=
  if host.isEmpty then some false
  else if (if host.all decOrDot then (ipv4Fast host).isSome else !numTail ((lastNonDotOf host).getD 0)) then
    some (port.all FastScan.portOk)
  else none

theorem answer_eq (pfx host rest : Bytes) (port : Option Bytes) (st : AuthSt)
    (hpc : st.portColon = port.map fun _ => pfx.length + host.length) (hdd : st.allDecDots = host.all decOrDot)
    (hlnd : st.lastNonDot = (lastNonDotOf host).getD 0) :
    answer (pfx ++ (host ++ (Cut.sfx 0x3A port ++ rest))) pfx.length (pfx.length + host.length + (Cut.sfx 0x3A port).length) st =
      verdict host port := by
  have hnt : (isDigit st.lastNonDot || decide (97 ≤ (lo st.lastNonDot).toNat) && decide ((lo st.lastNonDot).toNat ≤ 102) ||
      lo st.lastNonDot == 120) = numTail ((lastNonDotOf host).getD 0) := by rw [hlnd]; rfl
  have hhost : ∀ X : Bytes, ((pfx ++ (host ++ X)).drop pfx.length).take (pfx.length + host.length - pfx.length) = host := by
    intro X
    rw [List.drop_left' rfl, Nat.add_sub_cancel_left, List.take_left' rfl]
  have hbeq : (pfx.length == pfx.length + host.length) = host.isEmpty := by cases host <;> simp
  unfold answer verdict
  cases port with
  | none =>
    simp only [hpc, Option.map_none, Option.getD_none, Cut.sfx, List.length_nil, Nat.add_zero, hbeq, hhost, hdd, hnt,
      Option.all_none]
    cases host.isEmpty <;> cases host.all decOrDot <;> cases numTail ((lastNonDotOf host).getD 0) <;> rfl
  | some p =>
    have hport : ((pfx ++ (host ++ (0x3A :: p ++ rest))).drop (pfx.length + host.length + 1)).take
        (pfx.length + host.length + (p.length + 1) - (pfx.length + host.length) - 1) = p := by
      rw [show pfx ++ (host ++ (0x3A :: p ++ rest)) = (pfx ++ host ++ [0x3A]) ++ (p ++ rest) by simp,
        List.drop_left' (by simp [Nat.add_assoc]), show pfx.length + host.length + (p.length + 1) - (pfx.length + host.length) - 1 = p.length by omega,
        List.take_left' rfl]
    simp only [hpc, Option.map_some, Option.getD_some, Cut.sfx, List.length_cons, hbeq, hhost, hdd, hnt, hport, Option.all_some]
    cases host.isEmpty <;> cases host.all decOrDot <;> cases numTail ((lastNonDotOf host).getD 0) <;> cases FastScan.portOk p <;> rfl

theorem noxn_of_scan (host tl' : Bytes) (h : ∀ a b, host = a ++ b → b ≠ [] → xnAt (b ++ tl') = false) :
    (splitOn 0x2E host).any startsWithXn = false := by
  simp only [List.any_eq_false]
  intro label hl hx
  obtain ⟨a, r, e⟩ := splitOn_infix 0x2E host label hl
  match label, hx with
  | x :: n :: d1 :: d2 :: more, hx =>
    have := h a ((x :: n :: d1 :: d2 :: more) ++ r) e (by simp)
    simp only [startsWithXn, (lo_facts x).2.2.1, (lo_facts n).2.2.2] at hx
    simp only [List.cons_append, xnAt] at this
    rw [hx] at this
    cases this
  | [], hx => simp [startsWithXn] at hx
  | [_], hx => simp [startsWithXn] at hx
  | [_, _], hx => simp [startsWithXn] at hx
  | [_, _, _], hx => simp [startsWithXn] at hx

theorem numTail_lower : ∀ b : UInt8, numTail (toLowerByte b) = numTail b := by
  apply forall_uint8_of_fin; decide +kernel

theorem lastNonDotOf_map_lower (s : Bytes) : lastNonDotOf (s.map toLowerByte) = (lastNonDotOf s).map toLowerByte := by
  unfold lastNonDotOf
  have : (s.map toLowerByte).filter (· != 0x2E) = (s.filter (· != 0x2E)).map toLowerByte := by
    rw [List.filter_map]
    congr 1
    exact List.filter_congr (fun b _ => by simp only [Function.comp, bne, Lower.beq b 0x2E rfl])
  rw [this, List.getLast?_map]

theorem dd_lower (b : UInt8) (h : decOrDot b = true) : toLowerByte b = b ∧ (isAsciiDigit b = true ∨ b = 0x2E) := by
  have hd : b = 0x2E ∨ isAsciiDigit b = true := by simpa [decOrDot, isDigit_eq] using h
  refine ⟨Lower.of_not_upper b ?_, hd.symm⟩
  rcases hd with rfl | hd
  · rfl
  · simp only [isAsciiDigit, isAsciiUpper, Bool.and_eq_true, decide_eq_true_eq, Bool.and_eq_false_iff,
      decide_eq_false_iff_not] at hd ⊢
    omega

theorem host_decision (idna : Idna) (host tl' : Bytes) (hne : host ≠ []) (e2 : ∀ b ∈ host, hostOk b)
    (e3 : ∀ a b, host = a ++ b → b ≠ [] → xnAt (b ++ tl') = false)
    (h : (if host.all decOrDot then (ipv4Fast host).isSome else !numTail ((lastNonDotOf host).getD 0)) = true) :
    (hostParse idna host false).isSome = true := by
  have hT : HostText host := ⟨hne, fun b hb => (e2 b hb).1.1, fun b hb => (e2 b hb).2.2, noxn_of_scan host tl' e3⟩
  rw [hostParse_ascii idna host hT]
  by_cases hdd : host.all decOrDot = true
  · rw [if_pos hdd] at h
    have hlow : host.map toLowerByte = host :=
      map_eq_self _ _ (fun b hb => (dd_lower b (List.all_eq_true.mp hdd b hb)).1)
    rw [hlow]
    unfold ipv4Fast at h
    split at h; · cases h
    cases hq : ipv4Decimal host with
    | none => rw [hq] at h; cases h
    | some ip =>
      obtain ⟨s1, s2, _⟩ := ipv4Decimal_sound host ip hq
      rw [s1, if_pos rfl, Option.isSome_map]
      exact s2
  · rw [if_neg hdd] at h
    have hnum : endsInANumber (host.map toLowerByte) = false := by
      cases hq : endsInANumber (host.map toLowerByte) with
      | false => rfl
      | true =>
        obtain ⟨z, hz, hzt⟩ := endsInANumber_lastNonDot _ hq
        rw [lastNonDotOf_map_lower] at hz
        cases hl : lastNonDotOf host with
        | none => rw [hl] at hz; cases hz
        | some z0 =>
          rw [hl] at hz h
          cases hz
          rw [numTail_lower z0] at hzt
          rw [Option.getD_some, hzt] at h
          cases h
    rw [hnum]; rfl

theorem verdict_sound (idna : Idna) (scheme host tl' : Bytes) (port : Option Bytes) (hs : isSpecialScheme scheme = true)
    (e2 : ∀ b ∈ host, hostOk b) (e3 : ∀ a b, host = a ++ b → b ≠ [] → xnAt (b ++ tl') = false) (r : Bool)
    (h : verdict host port = some r) : r = (parseHostPort idna scheme (host ++ Cut.sfx 0x3A port)).isSome := by
  have hhb : ∀ b ∈ host, b ≠ 0x3A ∧ b ≠ 0x5B ∧ b ≠ 0x5D := by
    intro b hb
    have f := FP.forbDomain_facts b (e2 b hb).2.2 (e2 b hb).1.1
    exact ⟨f.2.1, f.2.2.1, f.2.2.2.1⟩
  have hports : (port.all fun p => (parsePort scheme p).isSome) = port.all FastScan.portOk := by
    cases port with
    | none => rfl
    | some p => exact (portOk_eq scheme p).symm
  rw [parseHostPort_isSome idna scheme host port hs hhb, hports]
  unfold verdict at h
  by_cases hh : host = []
  · subst hh; cases h; rfl
  · rw [isEmpty_false_of_ne hh, if_neg Bool.false_ne_true] at h
    by_cases hgood : (if host.all decOrDot then (ipv4Fast host).isSome else !numTail ((lastNonDotOf host).getD 0)) = true
    · rw [if_pos hgood] at h
      cases h
      rw [host_decision idna host tl' hh e2 e3 hgood, isEmpty_false_of_ne hh]; rfl
    · rw [if_neg hgood] at h
      cases h

theorem authByte_facts (b : UInt8) (h : authByte b) :
    FP.isSep true b = false ∧ b ≠ 0x3F ∧ b ≠ 0x23 ∧ b ≠ 0x40 ∧ isTabOrNewline b = false := by
  obtain ⟨_, h1, h2, h3, h4, h5, _, h7⟩ := h
  have e1 : (b == 0x2F) = false := by simpa using h1
  have e2 : (b == 0x5C) = false := by simpa using h4
  refine ⟨by simp [FP.isSep, e1, e2], h2, h3, h5, ?_⟩
  simpa [isTabNl, isTabOrNewline] using h7

theorem delim_facts (b : UInt8) (h : b = 0x2F ∨ b = 0x3F ∨ b = 0x23 ∨ b = 0x5C) :
    isTabOrNewline b = false ∧ (FP.isSep true b = true ∨ b = 0x3F ∨ b = 0x23) := by
  rcases h with rfl | rfl | rfl | rfl <;> decide

theorem spec_reduce (idna : Idna) (input t raw sl auth rest0 : Bytes) (c : UInt8) (tlr : Bytes)
    (htrim : trim input = t) (ett : t = raw ++ 0x3A :: 0x2F :: 0x2F :: (sl ++ (auth ++ rest0)))
    (eraw : raw = c :: tlr) (hc : isAsciiAlpha c = true) (hall : ∀ x ∈ raw, isSchemeChar x = true)
    (hsp : isSpecialScheme (raw.map toLowerByte) = true) (hnf : raw.map toLowerByte ≠ bFile)
    (hslash : ∀ b ∈ sl, FP.isSep true b = true) (hauth : ∀ b ∈ auth, authByte b) (hrest : delimHead rest0)
    (hempty : auth = [] → ∀ b, rest0.head? = some b → FP.isSep true b = false) :
    (parse idna input none).isSome = (parseHostPort idna (raw.map toLowerByte) auth).isSome := by
  have hfr : ∀ b, (rest0.filter (fun x => !isTabOrNewline x)).head? = some b → rest0.head? = some b := by
    intro b hb
    cases rest0 with
    | nil => simp at hb
    | cons d r =>
      have hd := (delim_facts d (hrest d rfl)).1
      rw [filter_keep_head d r hd] at hb
      exact hb
  apply parse_special_abs idna input raw sl auth (rest0.filter (fun x => !isTabOrNewline x)) c tlr ?_ eraw hc hall hsp hnf hslash
  · intro b hb
    have := authByte_facts b (hauth b hb)
    exact ⟨this.1, this.2.1, this.2.2.1, this.2.2.2.1⟩
  · intro b hb
    exact (delim_facts b (hrest b (hfr b hb))).2
  · intro he b hb
    exact hempty he b (hfr b hb)
  · rw [preprocess_trim, htrim, ett]
    simp only [List.filter_append, List.filter_cons]
    rw [filter_clean raw (fun b hb => (schemeChar_facts b (hall b hb)).2.2),
      filter_clean sl (fun b hb => (slash_facts b (hslash b hb)).2.2),
      filter_clean auth (fun b hb => (authByte_facts b (hauth b hb)).2.2.2.2)]
    simp [isTabOrNewline]

theorem cont_sound (idna : Idna) (input : Bytes) (pos : Nat) (hcut : SchemeCut (trim input) pos) (r : Bool)
    (h : cont (trim input) pos = some r) : r = (parse idna input none).isSome := by
  obtain ⟨raw, t2, c, tl, et, epos, eraw, hc, hall, hsp, hnf⟩ := hcut
  generalize htrim : trim input = t at et h
  have hdrop : t.drop pos = t2 := by
    rw [et, epos, show raw ++ 0x3A :: 0x2F :: 0x2F :: t2 = (raw ++ [0x3A, 0x2F, 0x2F]) ++ t2 by simp]
    exact List.drop_left' (by simp)
  unfold cont at h
  simp only [hdrop] at h
  -- the extra slashes, and the text `after` them
  have ht2 := (List.takeWhile_append_dropWhile (p := fun b => b == 0x2F || b == 0x5C) (l := t2)).symm
  have hslash : ∀ b ∈ t2.takeWhile (fun b => b == 0x2F || b == 0x5C), FP.isSep true b = true :=
    fun b hb => mem_takeWhile hb
  have hahead : ∀ b, (t2.dropWhile (fun b => b == 0x2F || b == 0x5C)).head? = some b → FP.isSep true b = false := by
    intro b hb
    have := List.head?_dropWhile_not (fun b => b == 0x2F || b == 0x5C) t2
    rw [hb] at this
    simpa [FP.isSep] using this
  generalize t2.takeWhile (fun b => b == 0x2F || b == 0x5C) = sl at ht2 hslash
  generalize t2.dropWhile (fun b => b == 0x2F || b == 0x5C) = after at ht2 hahead h
  have ett : t = (raw ++ 0x3A :: 0x2F :: 0x2F :: sl) ++ after := by rw [et, ht2]; simp
  have hlen : t.length - after.length = (raw ++ 0x3A :: 0x2F :: 0x2F :: sl).length := by
    rw [ett, List.length_append, Nat.add_sub_cancel]
  rw [hlen] at h
  generalize hpfx : raw ++ 0x3A :: 0x2F :: 0x2F :: sl = pfx at ett h
  split at h; · cases h
  cases hscan : authScan after pfx.length {} with
  | inl r0 =>
    rw [hscan, authScan_inl _ _ _ _ hscan] at h
    cases h
  | inr res =>
    obtain ⟨authEnd, st⟩ := res
    rw [hscan] at h
    simp only at h
    obtain ⟨host, tl', e1, e2, e3, e4, e5, port, rest, e6, hrest, hpc, hend, hport⟩ :=
      authScan_host after pfx.length {} rfl authEnd st hscan
    rw [e6] at e1
    rw [e1] at ett hahead
    rw [ett, hend, answer_eq pfx host rest port st hpc (by simpa using e4) e5] at h
    have hauth : ∀ b ∈ host ++ Cut.sfx 0x3A port, authByte b := by
      intro b hb
      rcases List.mem_append.mp hb with hb | hb
      · exact (e2 b hb).1
      · cases port with
        | none => cases hb
        | some p =>
          rcases List.mem_cons.mp hb with rfl | hb
          · exact authByte_colon
          · exact hport p rfl b hb
    have hempty : host ++ Cut.sfx 0x3A port = [] → ∀ b, rest.head? = some b → FP.isSep true b = false := by
      intro he b hb
      obtain ⟨rfl, hp⟩ := List.append_eq_nil_iff.mp he
      cases port with
      | none => exact hahead b hb
      | some p => cases hp
    rw [spec_reduce idna input t raw sl (host ++ Cut.sfx 0x3A port) rest c tl htrim (by rw [ett, ← hpfx]; simp) eraw hc hall hsp hnf
      hslash hauth hrest hempty]
    exact verdict_sound idna _ host tl' port hsp e2 e3 r h

/-- a definite answer of the fast scanner is the parser's verdict, for every input and every IDNA
    parameter -/
theorem fast_sound (idna : Idna) (input : Bytes) (r : Bool) (h : fastScan input = some r) :
    r = (parse idna input none).isSome := by
  rw [fastScan_eq] at h
  split at h
  · rename_i hemp
    injection h with h; subst h
    have ht : trim input = [] := by simpa using hemp
    have : parse idna input none = none := by
      apply parse_none_of_noscheme
      rw [preprocess_trim, ht]; rfl
    rw [this]; rfl
  · cases hs : httpShortcut (trim input) with
    | some p =>
      rw [hs] at h
      exact cont_sound idna input p (httpShortcut_cut _ p hs) r h
    | none =>
      rw [hs] at h
      simp only at h
      cases hg : generalScheme (trim input) with
      | inl r0 =>
        rw [hg] at h
        simp only at h
        subst h
        obtain ⟨e1, e2⟩ := generalScheme_inl idna input r hg
        rw [e1, e2]; rfl
      | inr p =>
        rw [hg] at h
        exact cont_sound idna input p (generalScheme_cut _ p hg) r h

end AdaVerif.Lemmas.FS
