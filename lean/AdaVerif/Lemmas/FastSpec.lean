import AdaVerif.Lemmas.FixedPoint
import AdaVerif.Lemmas.HostCanon
/-
C08, Spec side: when does the basic URL parser accept an absolute special (non-file) URL whose authority has no
credentials?  `parse_special_abs` reduces success of the whole parse to success of the host and port states on
the authority text (`parseHostPort_isSome`); `hostParse_ascii` and `parsePort_isSome` decide those for the inputs the
fast scanner answers definitely.
-/
namespace AdaVerif.Lemmas.FS
open AdaVerif AdaVerif.Spec AdaVerif.Lemmas AdaVerif.Lemmas.FP

theorem cutAt_fst_head (c : UInt8) (r : Bytes) :
    (cutAt c r).1 = [] ∨ ((cutAt c r).1.head? = r.head? ∧ r.head? ≠ some c) := by
  cases r with
  | nil => left; rfl
  | cons b t =>
    simp only [cutAt]
    split
    · left; rfl
    · rename_i hb
      right
      have : b ≠ c := by simpa using hb
      simp [this]

theorem skipSlashes_all (sl a r : Bytes) (hsl : ∀ b ∈ sl, FP.isSep true b = true)
    (ha : ∀ b, (a ++ r).head? = some b → FP.isSep true b = false) :
    skipSlashes (sl ++ (a ++ r)) = a ++ r := by
  unfold skipSlashes
  induction sl with
  | nil =>
    simp only [List.nil_append]
    cases hx : a ++ r with
    | nil => rfl
    | cons b t =>
      have := ha b (by rw [hx]; rfl)
      simp only [FP.isSep, Bool.true_and] at this
      simp [List.dropWhile_cons, this]
  | cons b t ih =>
    have hb := hsl b (by simp)
    simp only [FP.isSep, Bool.true_and] at hb
    simp only [List.cons_append, List.dropWhile_cons, hb, ↓reduceIte]
    exact ih (fun x hx => hsl x (by simp [hx]))

theorem schemeChar_facts (b : UInt8) (h : isSchemeChar b = true) : b ≠ 0x3F ∧ b ≠ 0x23 ∧ isTabOrNewline b = false := by
  refine ⟨?_, ?_, ?_⟩
  · rintro rfl; cases h
  · rintro rfl; cases h
  · cases htn : isTabOrNewline b with
    | false => rfl
    | true =>
      simp only [isTabOrNewline, Bool.or_eq_true, beq_iff_eq] at htn
      rcases htn with (rfl | rfl) | rfl <;> cases h
theorem slash_facts (b : UInt8) (h : FP.isSep true b = true) : b ≠ 0x3F ∧ b ≠ 0x23 ∧ isTabOrNewline b = false := by
  simp only [FP.isSep, Bool.true_and, Bool.or_eq_true, beq_iff_eq] at h
  rcases h with rfl | rfl <;> decide

theorem cuts_head (rest : Bytes) :
    let r2 := (cutAt 0x3F (cutAt 0x23 rest).1).1
    r2 = [] ∨ (r2.head? = rest.head? ∧ rest.head? ≠ some 0x3F ∧ rest.head? ≠ some 0x23) := by
  simp only
  rcases cutAt_fst_head 0x23 rest with h1 | h1
  · left; rw [h1]; rfl
  · rcases cutAt_fst_head 0x3F (cutAt 0x23 rest).1 with h2 | h2
    · left; exact h2
    · right
      rw [h1.1] at h2
      exact ⟨h2.1, h2.2, h1.2⟩

/-- the Standard's parser behind `scheme://` for a special scheme other than "file", any number of further
    slashes, an authority text `auth` without credentials and a remainder `r2` that is empty or starts with a slash:
    the host and port states on `auth`, then the path start state on `r2` -/
theorem parseCore_special_auth (idna : Idna) (raw sl auth r2 tail : Bytes) (hasQ hasF : Bool) (c : UInt8) (tl : Bytes)
    (hraw : raw = c :: tl) (hc : isAsciiAlpha c = true) (hall : ∀ x ∈ raw, isSchemeChar x = true)
    (hsp : isSpecialScheme (raw.map toLowerByte) = true) (hnf : raw.map toLowerByte ≠ bFile)
    (hsl : ∀ b ∈ sl, FP.isSep true b = true) (hauth : ∀ b ∈ auth, FP.isSep true b = false ∧ b ≠ 0x40)
    (hr2 : ∀ b, r2.head? = some b → FP.isSep true b = true) (hhead : ∀ b, (auth ++ r2).head? = some b → FP.isSep true b = false) :
    parseCore idna none (raw ++ 0x3A :: 0x2F :: 0x2F :: (sl ++ (auth ++ r2))) tail hasQ hasF =
      (parseHostPort idna (raw.map toLowerByte) auth).map fun hp =>
        { scheme := raw.map toLowerByte, host := some hp.1, port := hp.2, path := pathStartState (raw.map toLowerByte) r2 } := by
  have hts := FP.takeScheme_raw c tl (0x2F :: 0x2F :: (sl ++ (auth ++ r2))) hc (hraw ▸ hall)
  rw [← hraw] at hts
  have hfb : (raw.map toLowerByte == bFile) = false := by simpa using hnf
  have hskip := skipSlashes_all (0x2F :: 0x2F :: sl) auth r2 (by
    intro b hb
    simp only [List.mem_cons] at hb
    rcases hb with rfl | rfl | hb
    · decide
    · decide
    · exact hsl b hb) hhead
  have hae := FP.authorityEnd_stop true auth r2 (fun b hb => (hauth b hb).1) hr2
  have hnoat : (0x40 : UInt8) ∉ auth := fun hm => (hauth _ hm).2 rfl
  unfold parseCore
  simp only [hts, hfb, hsp, Bool.false_eq_true, ↓reduceIte]
  rw [show (0x2F : UInt8) :: 0x2F :: (sl ++ (auth ++ r2)) = (0x2F :: 0x2F :: sl) ++ (auth ++ r2) from rfl, hskip]
  unfold fromAuthority
  simp only [hsp, hae, List.take_left', List.drop_left']
  unfold parseAuthority
  simp only [splitCredentials_none auth hnoat, Option.isSome_none, Bool.false_and, Bool.false_eq_true, ↓reduceIte]
  cases parseHostPort idna (raw.map toLowerByte) auth <;> rfl

theorem parse_special_abs (idna : Idna) (input raw sl auth rest : Bytes) (c : UInt8) (tl : Bytes)
    (hs : preprocess input = raw ++ 0x3A :: 0x2F :: 0x2F :: (sl ++ (auth ++ rest)))
    (hraw : raw = c :: tl) (hc : isAsciiAlpha c = true) (hall : ∀ x ∈ raw, isSchemeChar x = true)
    (hsp : isSpecialScheme (raw.map toLowerByte) = true) (hnf : raw.map toLowerByte ≠ bFile)
    (hsl : ∀ b ∈ sl, FP.isSep true b = true)
    (hauth : ∀ b ∈ auth, FP.isSep true b = false ∧ b ≠ 0x3F ∧ b ≠ 0x23 ∧ b ≠ 0x40)
    (hrest : ∀ b, rest.head? = some b → FP.isSep true b = true ∨ b = 0x3F ∨ b = 0x23)
    (hempty : auth = [] → ∀ b, rest.head? = some b → FP.isSep true b = false) :
    (parse idna input none).isSome = (parseHostPort idna (raw.map toLowerByte) auth).isSome := by
  -- the text before `rest` contains neither '#' nor '?'
  have hP : ∀ b ∈ raw ++ 0x3A :: 0x2F :: 0x2F :: (sl ++ auth), b ≠ 0x3F ∧ b ≠ 0x23 := by
    intro b hb
    simp only [List.mem_append, List.mem_cons] at hb
    rcases hb with hb | rfl | rfl | rfl | hb | hb
    · exact ⟨(schemeChar_facts b (hall b hb)).1, (schemeChar_facts b (hall b hb)).2.1⟩
    · decide
    · decide
    · decide
    · exact ⟨(slash_facts b (hsl b hb)).1, (slash_facts b (hsl b hb)).2.1⟩
    · exact ⟨(hauth b hb).2.1, (hauth b hb).2.2.1⟩
  have hs' : preprocess input = (raw ++ 0x3A :: 0x2F :: 0x2F :: (sl ++ auth)) ++ rest := by
    rw [hs]; simp [List.append_assoc]
  have hc1 := cutAt_append_notin 0x23 _ rest (fun hm => (hP _ hm).2 rfl)
  have hc2 := cutAt_append_notin 0x3F _ (cutAt 0x23 rest).1 (fun hm => (hP _ hm).1 rfl)
  have hr2 := cuts_head rest
  simp only at hr2
  generalize hr2def : (cutAt 0x3F (cutAt 0x23 rest).1).1 = r2 at hr2 hc2
  -- the remainder after both cuts begins with a slash (or is empty)
  have hr2slash : ∀ b, r2.head? = some b → FP.isSep true b = true := by
    intro b hb
    rcases hr2 with h | h
    · rw [h] at hb; cases hb
    · rw [h.1] at hb
      rcases hrest b hb with h1 | h1 | h1
      · exact h1
      · subst h1; exact absurd hb h.2.1
      · subst h1; exact absurd hb h.2.2
  have hhead : ∀ b, (auth ++ r2).head? = some b → FP.isSep true b = false := by
    intro b hb
    cases auth with
    | nil =>
      simp only [List.nil_append] at hb
      rcases hr2 with h | h
      · rw [h] at hb; cases hb
      · rw [h.1] at hb; exact hempty rfl b hb
    | cons a t =>
      simp only [List.cons_append, List.head?_cons, Option.some.injEq] at hb
      subst hb; exact (hauth a (by simp)).1
  unfold parse
  simp only [hs', hc1, hc2]
  rw [show raw ++ 0x3A :: 0x2F :: 0x2F :: (sl ++ auth) ++ r2 = raw ++ 0x3A :: 0x2F :: 0x2F :: (sl ++ (auth ++ r2)) by
    simp [List.append_assoc]]
  rw [parseCore_special_auth idna raw sl auth r2 _ _ _ c tl hraw hc hall hsp hnf hsl
    (fun b hb => ⟨(hauth b hb).1, (hauth b hb).2.2.2⟩) hr2slash hhead]
  cases parseHostPort idna (raw.map toLowerByte) auth <;> rfl

/-- a host text the host parser handles without IDNA: non-empty ASCII, no forbidden domain code point, no `xn--` label -/
structure HostText (host : Bytes) : Prop where
  ne : host ≠ []
  ascii : ∀ b ∈ host, b.toNat < 0x80
  clean : ∀ b ∈ host, isForbiddenDomain b = false
  noxn : (splitOn 0x2E host).any startsWithXn = false

theorem upper_not_forbidden : ∀ b : UInt8, isAsciiUpper b = true →
    isForbiddenDomain b = false ∧ isForbiddenDomain (b + 32) = false := by
  apply forall_uint8_of_fin; decide +kernel

theorem lower_forbidden (b : UInt8) : isForbiddenDomain (toLowerByte b) = isForbiddenDomain b := by
  unfold toLowerByte
  split
  · rename_i hu
    rw [(upper_not_forbidden b hu).1, (upper_not_forbidden b hu).2]
  · rfl

/-- on such a text the host parser lower-cases, then reads an IPv4 address if the text ends in a number and a domain
    otherwise -/
theorem hostParse_ascii (idna : Idna) (host : Bytes) (h : HostText host) :
    hostParse idna host false =
      (if endsInANumber (host.map toLowerByte) then (ipv4Parse (host.map toLowerByte)).map Host.ipv4
       else some (.domain (host.map toLowerByte))) := by
  have hf := fun b hx => forbDomain_facts b (h.clean b hx) (h.ascii b hx)
  have hpd : percentDecode host = host := percentDecode_no_pct _ (fun b hx => (hf b hx).2.2.2.2.1)
  have hasc : isAsciiBytes host = true := by
    simp only [isAsciiBytes, List.all_eq_true, decide_eq_true_eq]; exact h.ascii
  have hda := domainToAscii_ascii idna host hasc h.noxn h.ne
  have hforb : (host.map toLowerByte).any isForbiddenDomain = false := by
    simp only [List.any_map, List.any_eq_false, Function.comp]
    intro b hb
    rw [lower_forbidden]; simp [h.clean b hb]
  unfold hostParse
  split
  · rename_i rest heq
    have := (hf 0x5B (by simp)).2.2.1
    exact absurd rfl this
  · simp only [Bool.false_eq_true, ↓reduceIte, hpd, hda, hforb]

theorem parsePort_isSome (scheme port : Bytes) :
    (parsePort scheme port).isSome = (port.all isAsciiDigit && (port.isEmpty || decide (parseRadix 10 port ≤ 65535))) := by
  unfold parsePort
  by_cases h1 : port.all isAsciiDigit = true
  · by_cases h2 : port.isEmpty = true
    · simp [h1, h2]
    · by_cases h3 : parseRadix 10 port > 65535
      · have : ¬ parseRadix 10 port ≤ 65535 := by omega
        simp [h1, h2, h3, this]
      · have : parseRadix 10 port ≤ 65535 := by omega
        have h2' : port.isEmpty = false := by simpa using h2
        simp only [h1, h2', h3, Bool.not_true, Bool.false_eq_true, ↓reduceIte, Bool.false_or, Bool.true_and, this, decide_true]
        split <;> rfl
  · simp [h1]

theorem parseHostPort_isSome (idna : Idna) (scheme host : Bytes) (port : Option Bytes) (hs : isSpecialScheme scheme = true)
    (hb : ∀ b ∈ host, b ≠ 0x3A ∧ b ≠ 0x5B ∧ b ≠ 0x5D) :
    (parseHostPort idna scheme (host ++ Cut.sfx 0x3A port)).isSome =
      (!host.isEmpty && (hostParse idna host false).isSome && port.all fun p => (parsePort scheme p).isSome) := by
  unfold parseHostPort
  cases port with
  | none =>
    have he := hostEnd_plain host [] hb (Or.inl rfl)
    rw [List.append_nil] at he
    simp only [Cut.sfx, List.append_nil, he, Nat.lt_irrefl, ↓reduceIte, hs, Bool.not_true, Option.all_none, Bool.and_true]
    cases host with
    | nil => rfl
    | cons c t => cases hostParse idna (c :: t) false <;> rfl
  | some p =>
    have he := hostEnd_plain host (0x3A :: p) hb (Or.inr rfl)
    have hlt : host.length < (host ++ 0x3A :: p).length := by simp
    have hd : (host ++ 0x3A :: p).drop (host.length + 1) = p := by
      rw [show host ++ 0x3A :: p = (host ++ [0x3A]) ++ p by simp]
      exact List.drop_left' (by simp)
    simp only [Cut.sfx, he, hlt, ↓reduceIte, List.take_left', hd, hs, Bool.not_true, Option.all_some]
    cases host with
    | nil => rfl
    | cons c t =>
      cases hostParse idna (c :: t) false with
      | none => rfl
      | some h => cases parsePort scheme p <;> rfl

end AdaVerif.Lemmas.FS
