import AdaVerif.Model.Guard
/-
`Model.guarded`, the length check of the setter layer: failure is atomic, the bound is kept,
and below the bound the check is invisible.
-/
namespace AdaVerif.Lemmas
open AdaVerif.Model

variable {σ : Type} (size : σ → Nat) (L : Nat)

theorem guarded_some (run : σ → Option σ) (a b : σ) (h : run a = some b) :
    guarded size L run a = if size b ≤ L then (b, true) else (a, false) := by
  unfold guarded
  rw [h]

/-- atomic failure: a guarded operation that reports failure leaves the state untouched -/
theorem guarded_atomic (run : σ → Option σ) (s : σ) (h : (guarded size L run s).2 = false) :
    (guarded size L run s).1 = s := by
  unfold guarded at *
  split
  · rfl
  · split
    · rename_i h1 h2; simp [h1, h2] at h
    · rfl

theorem guarded_bounded (run : σ → Option σ) (s : σ) (h : size s ≤ L) :
    size (guarded size L run s).1 ≤ L := by
  unfold guarded
  split
  · exact h
  · split
    · assumption
    · exact h

/-- transparency: when the result fits, the limit changes nothing -/
theorem guarded_transparent (run : σ → Option σ) (s s' : σ) (L' : Nat) (hr : run s = some s')
    (h : size s' ≤ L) (h' : size s' ≤ L') : guarded size L run s = guarded size L' run s := by
  unfold guarded
  simp [hr, h, h']

theorem guarded_success (run : σ → Option σ) (s : σ) (h : (guarded size L run s).2 = true) :
    run s = some (guarded size L run s).1 := by
  unfold guarded at *
  split
  · rename_i h1; simp [h1] at h
  · rename_i s' h1
    split
    · exact h1
    · rename_i h2; simp [h1, h2] at h

theorem history_bounded (ops : List (σ → Option σ)) (s : σ) (h : size s ≤ L) :
    size (history size L ops s) ≤ L := by
  unfold history
  induction ops generalizing s with
  | nil => exact h
  | cons op rest ih => exact ih _ (guarded_bounded size L op s h)

end AdaVerif.Lemmas
