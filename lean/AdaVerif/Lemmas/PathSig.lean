import AdaVerif.Model.PathPrepared
import AdaVerif.Spec.Sets
import AdaVerif.Lemmas.TableWalk
/-
`checkers::path_signature`: the 8-way unrolled loop is a plain OR-fold, and each bit of the accumulator says that
some byte of the input has the corresponding property.
-/
namespace AdaVerif.Lemmas.PP
open AdaVerif AdaVerif.Spec AdaVerif.Model.PathPrepared

theorem sig_fold (l : Bytes) (acc : Nat) : pathSignature l acc = l.foldl (fun acc x => acc ||| T x) acc := by
  fun_induction pathSignature l acc with
  | case1 a b c d e f g h rest acc ih =>
    rw [ih]
    simp only [List.foldl_cons, Nat.or_assoc]
  | case2 l acc hne => rfl

theorem T_values : ∀ (b : UInt8) (v : Nat), T b = v →
    (v = 1 ∧ inPath b = true ∧ b ≠ 0x25 ∧ b ≠ 0x2E ∧ b ≠ 0x5C) ∨
    (v = 2 ∧ b = 0x5C) ∨ (v = 4 ∧ b = 0x2E) ∨ (v = 8 ∧ b = 0x25) ∨
    (v = 0 ∧ inPath b = false ∧ b ≠ 0x25 ∧ b ≠ 0x2E ∧ b ≠ 0x5C) :=
  forall_tget_entry (T := Gen.pathSignatureTable) (by decide +kernel) (by decide +kernel)

/-- the non-zero values of `path_signature_table`: 1 = needs percent-encoding, 2 = backslash, 4 = dot, 8 = percent -/
def Flag (k : Nat) : Prop := k = 1 ∨ k = 2 ∨ k = 4 ∨ k = 8

theorem T_flag (b : UInt8) (k : Nat) (hk : Flag k) : T b < 16 ∧ (T b &&& k ≠ 0 ↔ T b = k) := by
  rcases T_values b _ rfl with h | h | h | h | h <;> rcases hk with rfl | rfl | rfl | rfl <;> rw [h.1] <;> decide

structure SigFacts (l : Bytes) (acc : Nat) : Prop where
  lt : acc < 16
  bit : ∀ k, Flag k → (acc &&& k ≠ 0 ↔ ∃ b ∈ l, T b = k)

theorem fold_flag (k : Nat) (hk : Flag k) : ∀ (l : Bytes) (acc : Nat), acc < 16 →
    l.foldl (fun acc x => acc ||| T x) acc < 16 ∧
    (l.foldl (fun acc x => acc ||| T x) acc &&& k ≠ 0 ↔ acc &&& k ≠ 0 ∨ ∃ b ∈ l, T b = k)
  | [], acc, h => ⟨h, by simp⟩
  | x :: t, acc, h => by
    have hx := T_flag x k hk
    have ih := fold_flag k hk t (acc ||| T x) (Nat.or_lt_two_pow (n := 4) h hx.1)
    refine ⟨ih.1, ?_⟩
    have hx2 : ¬ T x &&& k = 0 ↔ T x = k := hx.2
    rw [List.foldl_cons, ih.2, Nat.and_or_distrib_right, Ne, Nat.or_eq_zero_iff, Decidable.not_and_iff_not_or_not, hx2]
    simp only [List.mem_cons, or_and_right, exists_or, exists_eq_left, or_assoc, ne_eq]

theorem sig_facts (input : Bytes) : SigFacts input (pathSignature input 0) := by
  rw [sig_fold]
  refine ⟨(fold_flag 1 (Or.inl rfl) input 0 (by decide)).1, fun k hk => ?_⟩
  rw [(fold_flag k hk input 0 (by decide)).2]
  simp

end AdaVerif.Lemmas.PP
