import AdaVerif.Model.UrlSetters
import AdaVerif.Lemmas.AggSetters
import AdaVerif.Lemmas.PathMain
import AdaVerif.Lemmas.Decimal
/-
The component setters of `ada::url` (Model/UrlSetters.lean) implement the Standard's API setters (Spec/Setters.lean):
for every URL record of the Standard, the C++ setter applied to the `ada::url` holding that record yields the
`ada::url` holding the Standard's result when its href fits the limit, and otherwise leaves it as it was and
reports failure.
-/
namespace AdaVerif.Lemmas.UR
open AdaVerif AdaVerif.Model AdaVerif.Model.UrlRec AdaVerif.Model.Agg AdaVerif.Lemmas.AggL

/-- the `ada::url` object that holds the Standard's record `u` -/
def recOf (u : Spec.Url) : Rec :=
  { scheme := u.scheme, special := u.isSpecial, username := u.username, password := u.password,
    host := u.host.map Spec.Host.serialize, port := u.port, path := u.pathSerialized,
    query := u.query, hash := u.fragment, opq := u.isOpaque }

theorem ite_gt {α : Type} (a L : Nat) (x y : α) : (if a > L then x else y) = if a ≤ L then y else x := by
  by_cases h : a ≤ L
  · have : ¬ a > L := by omega
    simp [h, this]
  · have : a > L := by omega
    simp [h, this]

theorem ite_gt_fst {α : Type} (n L : Nat) (a b : α) :
    (if n > L then (a, false) else (b, true)).1 = if n ≤ L then b else a := by
  rw [ite_gt]
  split <;> rfl

theorem recOf_scheme (u : Spec.Url) : (recOf u).scheme = u.scheme := rfl
theorem recOf_special (u : Spec.Url) : (recOf u).special = Spec.isSpecialScheme u.scheme := rfl
theorem recOf_query (u : Spec.Url) : (recOf u).query = u.query := rfl
theorem recOf_opq (u : Spec.Url) : (recOf u).opq = u.isOpaque := rfl
theorem recOf_path (u : Spec.Url) : (recOf u).path = u.pathSerialized := rfl

theorem with_username (u : Spec.Url) (x : Bytes) : { recOf u with username := x } = recOf { u with username := x } := by
  simp [recOf, Spec.Url.isSpecial, Spec.Url.pathSerialized]
theorem with_password (u : Spec.Url) (x : Bytes) : { recOf u with password := x } = recOf { u with password := x } := by
  simp [recOf, Spec.Url.isSpecial, Spec.Url.pathSerialized]
theorem with_port (u : Spec.Url) (x : Option Nat) : { recOf u with port := x } = recOf { u with port := x } := by
  simp [recOf, Spec.Url.isSpecial, Spec.Url.pathSerialized]
theorem with_query (u : Spec.Url) (x : Option Bytes) : { recOf u with query := x } = recOf { u with query := x } := by
  simp [recOf, Spec.Url.isSpecial, Spec.Url.pathSerialized]
theorem with_hash (u : Spec.Url) (x : Option Bytes) : { recOf u with hash := x } = recOf { u with fragment := x } := by
  simp [recOf, Spec.Url.isSpecial, Spec.Url.pathSerialized]

theorem hostEmpty_iff (u : Spec.Url) (ok : CredOk u) : ((recOf u).host == some []) = (u.host == some .empty) := by
  cases hh : u.host with
  | none => simp [recOf, hh]
  | some h =>
    by_cases he : h = .empty
    · subst he; simp [recOf, hh, Spec.Host.serialize]
    · have hne := ok.nonEmpty h hh he
      have h1 : (some h.serialize == some ([] : Bytes)) = false := by simpa using hne
      have h2 : (some h == some Spec.Host.empty) = false := by simpa using he
      simp [recOf, hh, h1, h2]

theorem cannotHaveCredentialsOrPort_eq (u : Spec.Url) (ok : CredOk u) (ty : Nat) (hty : (ty == 6) = (u.scheme == Spec.bFile)) :
    (recOf u).cannotHaveCredentialsOrPort ty = u.cannotHaveUsernamePasswordPort := by
  unfold Rec.cannotHaveCredentialsOrPort Spec.Url.cannotHaveUsernamePasswordPort
  rw [hty, hostEmpty_iff u ok]
  cases hh : u.host <;> simp [recOf, hh]

theorem setUsernameR_eq (L ty : Nat) (u : Spec.Url) (v : Bytes) (ok : CredOk u) (hty : (ty == 6) = (u.scheme == Spec.bFile)) :
    setUsernameR L ty (recOf u) v =
      if u.cannotHaveUsernamePasswordPort then (recOf u, false)
      else if getHrefSize (recOf (Spec.setUsername u v)) ≤ L then (recOf (Spec.setUsername u v), true)
      else (recOf u, false) := by
  unfold setUsernameR Spec.setUsername
  rw [cannotHaveCredentialsOrPort_eq u ok ty hty, with_username, ite_gt]
  cases u.cannotHaveUsernamePasswordPort <;> rfl

theorem setPasswordR_eq (L ty : Nat) (u : Spec.Url) (v : Bytes) (ok : CredOk u) (hty : (ty == 6) = (u.scheme == Spec.bFile)) :
    setPasswordR L ty (recOf u) v =
      if u.cannotHaveUsernamePasswordPort then (recOf u, false)
      else if getHrefSize (recOf (Spec.setPassword u v)) ≤ L then (recOf (Spec.setPassword u v), true)
      else (recOf u, false) := by
  unfold setPasswordR Spec.setPassword
  rw [cannotHaveCredentialsOrPort_eq u ok ty hty, with_password, ite_gt]
  cases u.cannotHaveUsernamePasswordPort <;> rfl

theorem defaultPort_pos (s : Bytes) (d : Nat) (h : Spec.defaultPort s = some d) : d ≠ 0 := by
  rintro rfl
  unfold Spec.defaultPort at h
  grind

/-- `is_port_valid` of `url::parse_port` is "not the scheme's default port" -/
theorem portValid_eq (s : Bytes) (p : Nat) :
    (((Spec.defaultPort s).getD 0 == 0 && p == 0) || (Spec.defaultPort s).getD 0 != p) = !(Spec.defaultPort s == some p) := by
  cases hd : Spec.defaultPort s with
  | none =>
    by_cases hp : p = 0
    · simp [hp]
    · simp [hp]; omega
  | some d =>
    have := defaultPort_pos s d hd
    have h0 : (d == 0) = false := by simpa using this
    by_cases hp : d = p
    · subst hp; simp [h0]
    · have : (d == p) = false := by simpa using hp
      simp [h0, this, bne]

theorem setPortR_eq (L ty : Nat) (u : Spec.Url) (v : Bytes) (ok : CredOk u) (hty : (ty == 6) = (u.scheme == Spec.bFile)) :
    setPortR L ty ((Spec.defaultPort u.scheme).getD 0) (recOf u) v =
      if u.cannotHaveUsernamePasswordPort then (recOf u, false)
      else if v.isEmpty then (recOf (Spec.setPort u v), true)
      else match Spec.stripTN v with
        | [] => (recOf u, true)
        | c :: _ =>
          if !isAsciiDigit c then (recOf u, false)
          else if Spec.parseRadix 10 ((Spec.stripTN v).takeWhile isAsciiDigit) > 65535 then (recOf u, false)
          else if getHrefSize (recOf (Spec.setPort u v)) ≤ L then (recOf (Spec.setPort u v), true)
          else (recOf u, false) := by
  unfold setPortR Spec.setPort
  rw [cannotHaveCredentialsOrPort_eq u ok ty hty]
  cases hc : u.cannotHaveUsernamePasswordPort
  case true => rfl
  simp only [Bool.false_eq_true, ↓reduceIte]
  cases hv : v.isEmpty
  case true => simp only [↓reduceIte, with_port]
  simp only [Bool.false_eq_true, ↓reduceIte]
  cases ht : Spec.stripTN v with
  | nil => rfl
  | cons c t =>
    simp only
    cases hd : isAsciiDigit c
    case false => rfl
    simp only [Bool.not_true, Bool.false_eq_true, ↓reduceIte]
    by_cases hbig : Spec.parseRadix 10 ((c :: t).takeWhile isAsciiDigit) > 65535
    · simp only [hbig, ↓reduceIte]
    · have hne : ((c :: t).takeWhile isAsciiDigit).isEmpty = false := by simp [hd]
      simp only [hbig, ↓reduceIte, portValid_eq, Spec.portOverride, hne, Bool.false_eq_true]
      cases Spec.defaultPort u.scheme == some (Spec.parseRadix 10 ((c :: t).takeWhile isAsciiDigit)) <;>
        simp only [Bool.not_true, Bool.not_false, Bool.false_eq_true, ↓reduceIte, with_port, ite_gt]

theorem strip_eq (u : Spec.Url) : stripTrailingSpacesR (recOf u) = recOf u.stripTrailingSpaces := by
  unfold stripTrailingSpacesR Spec.Url.stripTrailingSpaces
  by_cases ho : u.isOpaque = true
  · cases hf : u.fragment <;> cases hq : u.query <;>
      simp [recOf, ho, hf, hq, Spec.Url.isSpecial, Spec.Url.pathSerialized]
  · simp [recOf, ho]

theorem setHash_cons (u : Spec.Url) (b : UInt8) (t : Bytes) : Spec.setHash u (b :: t) =
    { u with fragment := some (Spec.percentEncode Spec.inFragment (Spec.stripTN (dropLeading 0x23 (b :: t)))) } := by
  unfold Spec.setHash dropLeading
  by_cases hb : b = 0x23
  · subst hb; rfl
  · simp only [List.isEmpty_cons, Bool.false_eq_true, ↓reduceIte, beq_iff_eq, hb]
    split
    · rename_i heq; injection heq with h1; exact absurd h1 hb
    · rfl

theorem setSearch_cons (u : Spec.Url) (b : UInt8) (t : Bytes) : Spec.setSearch u (b :: t) =
    { u with query := some (Spec.encodeQuery u.isSpecial (Spec.stripTN (dropLeading 0x3F (b :: t)))) } := by
  unfold Spec.setSearch dropLeading
  by_cases hb : b = 0x3F
  · subst hb; rfl
  · simp only [List.isEmpty_cons, Bool.false_eq_true, ↓reduceIte, beq_iff_eq, hb]
    split
    · rename_i heq; injection heq with h1; exact absurd h1 hb
    · rfl

theorem setHashR_eq (L : Nat) (u : Spec.Url) (v : Bytes) :
    setHashR L (recOf u) v =
      if v.isEmpty then recOf (Spec.setHash u v)
      else if getHrefSize (recOf (Spec.setHash u v)) ≤ L then recOf (Spec.setHash u v) else recOf u := by
  unfold setHashR
  rcases v with _ | ⟨b, t⟩
  · simp only [List.isEmpty_nil, ↓reduceIte, with_hash, strip_eq, Spec.setHash]
  · simp only [List.isEmpty_cons, Bool.false_eq_true, ↓reduceIte, with_hash, setHash_cons, ite_gt]

theorem setSearchR_eq (L : Nat) (u : Spec.Url) (v : Bytes) :
    setSearchR L (recOf u) v =
      if v.isEmpty then recOf (Spec.setSearch u v)
      else if getHrefSize (recOf (Spec.setSearch u v)) ≤ L then recOf (Spec.setSearch u v) else recOf u := by
  unfold setSearchR
  rcases v with _ | ⟨b, t⟩
  · simp only [List.isEmpty_nil, ↓reduceIte, with_query, strip_eq, Spec.setSearch]
  · simp only [List.isEmpty_cons, Bool.false_eq_true, ↓reduceIte, with_query, setSearch_cons, ite_gt]
    rfl

theorem pathState_nil (scheme : Bytes) : Spec.pathState scheme [] [] = [[]] := by
  have h0 : Spec.percentEncode Spec.inPath [] = [] := by decide
  have h1 : Spec.isDoubleDot [] = false := by decide
  have h2 : Spec.isSingleDot [] = false := by decide
  have h3 : Spec.isWindowsDriveLetter [] = false := by decide
  simp [Spec.pathState, Spec.splitPath, Spec.pathSegments, h0, h1, h2, h3]

theorem pathSerialized_text (u : Spec.Url) (ho : u.isOpaque = false) : u.pathSerialized = FP.pathText u.path := by
  simp [Spec.Url.pathSerialized, ho, FP.pathText]

theorem prepared_nil (scheme : Bytes) (ty : Nat) (hty : PP.TyOf scheme ty) (input : Bytes) :
    PathPrepared.parsePreparedPath input ty [] = FP.pathText (Spec.pathState scheme [] input) := by
  have := PP.parsePreparedPath_eq scheme ty hty input [] (by intro s hs; cases hs)
  simpa [FP.pathText, Spec.pathState] using this

attribute [local simp] recOf Spec.Url.isSpecial Spec.Url.pathSerialized FP.pathText in
/-- `url::parse_path` on a cleared path is the Standard's path start state with a state override -/
theorem parsePathR_eq (ty : Nat) (u : Spec.Url) (v : Bytes) (hty : PP.TyOf u.scheme ty) (ho : u.isOpaque = false)
    (r0 : Rec) (h0 : r0 = { recOf u with path := [] }) :
    parsePathR ty r0 v = recOf (Spec.setPathname u v) := by
  subst h0
  have hhost : (recOf u).host.isNone = u.host.isNone := by cases h : u.host <;> simp [h]
  unfold parsePathR Spec.setPathname
  simp only [ho, Bool.false_eq_true, ↓reduceIte, show (recOf u).special = u.isSpecial from rfl, hhost,
    prepared_nil u.scheme ty hty]
  cases hs : u.isSpecial
  · have hs' : Spec.isSpecialScheme u.scheme = false := hs
    simp only [Bool.false_eq_true, ↓reduceIte]
    cases Spec.stripTN v with
    | nil => cases u.host.isNone <;> simp [hs', ho]
    | cons c rest => simp only; split <;> simp [hs', ho]
  · have hs' : Spec.isSpecialScheme u.scheme = true := hs
    simp only [↓reduceIte]
    cases Spec.stripTN v with
    | nil => simp [pathState_nil, hs', ho]
    | cons c rest => simp only; split <;> simp [hs', ho]

theorem setPathnameR_eq (L ty : Nat) (u : Spec.Url) (v : Bytes) (hty : PP.TyOf u.scheme ty) :
    setPathnameR L ty (recOf u) v =
      if u.isOpaque then (recOf u, false)
      else if getHrefSize (recOf (Spec.setPathname u v)) ≤ L then (recOf (Spec.setPathname u v), true)
      else (recOf u, false) := by
  unfold setPathnameR
  rw [recOf_opq]
  cases ho : u.isOpaque
  · simp only [Bool.false_eq_true, ↓reduceIte, ite_gt]
    rw [parsePathR_eq ty u v hty ho _ (by simp [recOf, ho])]
  · rfl

/-- `std::to_chars` of a port is the Standard's shortest decimal representation -/
theorem dec16_eq (p : Nat) (h : p < 65536) : dec16 p = Spec.natToDec p := by
  unfold dec16 Spec.natToDec digit
  split
  · rw [natToDecF_ge _ p (by omega), natToDecF_ge _ _ (by omega), natToDecF_ge _ _ (by omega), natToDecF_ge _ _ (by omega),
      natToDecF_lt _ _ (by omega)]
    simp [Nat.div_div_eq_div_mul, Nat.mod_eq_of_lt (show p / 10000 < 10 by omega)]
  split
  · rw [natToDecF_ge _ p (by omega), natToDecF_ge _ _ (by omega), natToDecF_ge _ _ (by omega), natToDecF_lt _ _ (by omega)]
    simp [Nat.div_div_eq_div_mul, Nat.mod_eq_of_lt (show p / 1000 < 10 by omega)]
  split
  · rw [natToDecF_ge _ p (by omega), natToDecF_ge _ _ (by omega), natToDecF_lt _ _ (by omega)]
    simp [Nat.div_div_eq_div_mul, Nat.mod_eq_of_lt (show p / 100 < 10 by omega)]
  split
  · rw [natToDecF_ge _ p (by omega), natToDecF_lt _ _ (by omega)]
    simp [Nat.mod_eq_of_lt (show p / 10 < 10 by omega)]
  · rw [natToDecF_lt _ p (by omega), Nat.mod_eq_of_lt (by omega)]

theorem sss_cons (x : UInt8) (t : Bytes) (hx : x ≠ 0x2F) : startsWithSlashSlash (0x2F :: x :: t) = false := by
  unfold startsWithSlashSlash
  split
  · rename_i heq; injection heq with _ e; injection e with e _; exact absurd e hx
  · rfl

/-- `path.starts_with("//")` is the Standard's "path has more than one segment and the first is empty" -/
theorem dashdot_eq (path : List Bytes) (hns : PP.NoSlash path) :
    startsWithSlashSlash (path.flatMap (fun seg => 0x2F :: seg)) = (decide (path.length > 1) && path.head? == some []) := by
  match path, hns with
  | [], _ => simp [startsWithSlashSlash]
  | [] :: r, _ => cases r <;> simp [startsWithSlashSlash]
  | (x :: a') :: r, hns =>
    have hx : x ≠ 0x2F := by intro e; exact hns (x :: a') (by simp) (by simp [e])
    cases r <;> simp [sss_cons x _ hx]

/-- both C++ types hold the same content: the `ada::url` record of `u` lays out as `u`'s aggregator buffer -/
theorem toL_recOf (u : Spec.Url) (ok : HostlessOk u) (hp : ∀ p, u.port = some p → p < 65536)
    (hns : PP.NoSlash u.path) : toL (recOf u) = ofUrl u := by
  have hport : u.port.map (fun p => (p, dec16 p)) = u.port.map (fun p => (p, Spec.natToDec p)) := by
    cases hpp : u.port with
    | none => rfl
    | some p => simp [dec16_eq p (hp p hpp)]
  cases hh : u.host with
  | none =>
    obtain ⟨hu, hpw, hpo⟩ := ok hh
    by_cases ho : u.isOpaque = true
    · simp [toL, recOf, ofUrl, hh, hu, hpw, hpo, ho, pathStartsSlashSlash]
    · have ho' : u.isOpaque = false := by simpa using ho
      have := dashdot_eq u.path hns
      simp [toL, recOf, ofUrl, hh, hu, hpw, hpo, ho', pathStartsSlashSlash, Spec.Url.pathSerialized, this]
  | some h =>
    simp [toL, recOf, ofUrl, hh, hport]

end AdaVerif.Lemmas.UR
