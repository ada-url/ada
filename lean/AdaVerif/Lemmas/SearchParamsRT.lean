import AdaVerif.Lemmas.SearchParamsSpec
/-
URLSearchParams: serialising any list of pairs of arbitrary byte strings and parsing the result returns the
same list.  Proved for the Standard's serializer and parser; the class inherits it (SearchParamsSpec).
-/
namespace AdaVerif.Lemmas
open AdaVerif AdaVerif.Model AdaVerif.Model.USP

/-- the serializer writes only `+`, `%` and bytes outside the form set (the hex digits of an escape are such) -/
theorem formByte_alphabet {b x : UInt8} (h : x ∈ formByte b) : x = 0x2B ∨ x = 0x25 ∨ Spec.inForm x = false := by
  unfold formByte at h
  split at h
  · exact .inl (List.mem_singleton.mp h)
  · split at h
    · rcases mem_pctByte h with h | h
      · exact .inr (.inl h)
      · exact .inr (.inr (hex_not_inForm x h))
    · rename_i hb
      rw [List.mem_singleton.mp h]
      exact .inr (.inr (by simpa using hb))

/-- so a serialized component contains none of `&`, `=`, `?`: all three are in the form set -/
theorem encoded_no_delims (s : Bytes) : ∀ x ∈ Spec.percentEncodeForm s, x ≠ 0x26 ∧ x ≠ 0x3D ∧ x ≠ 0x3F := by
  intro x hx
  obtain ⟨b, _, hb⟩ := List.mem_flatMap.mp hx
  have h := formByte_alphabet hb
  refine ⟨?_, ?_, ?_⟩
  all_goals rintro rfl; revert h; decide

theorem formDecode_formByte (b : UInt8) (t : Bytes) :
    Spec.formDecode (formByte b ++ t) = b :: Spec.formDecode t := by
  unfold Spec.formDecode formByte
  by_cases h20 : b = 0x20
  · subst h20
    simp only [beq_self_eq_true, ↓reduceIte, List.cons_append, List.nil_append, List.map_cons]
    rw [decode_cons_plain _ _ (Or.inl (by decide))]
  · have h20' : (b == 0x20) = false := by simpa using h20
    simp only [h20', Bool.false_eq_true, ↓reduceIte]
    split
    · rw [List.map_append, map_pctByte _ rfl (fun x hx => replace_hex 0x2B 0x20 x (by decide) hx), decode_pctByte]
    · rename_i hin
      -- `+` and `%` are in the form set, `b` is not
      have h2b : (b == 0x2B) = false := by
        rw [beq_eq_false_iff_ne]; rintro rfl; exact hin (by decide)
      have h25 : b ≠ 0x25 := by
        rintro rfl; exact hin (by decide)
      simp only [List.cons_append, List.nil_append, List.map_cons, h2b, Bool.false_eq_true, ↓reduceIte]
      rw [decode_cons_plain _ _ (Or.inl h25)]

theorem formDecode_encode (s : Bytes) : Spec.formDecode (Spec.percentEncodeForm s) = s := by
  induction s with
  | nil => rfl
  | cons b rest ih =>
    show Spec.formDecode (formByte b ++ Spec.percentEncodeForm rest) = _
    rw [formDecode_formByte, ih]

def pieceS (p : Pair) : Bytes := Spec.percentEncodeForm p.1 ++ [0x3D] ++ Spec.percentEncodeForm p.2

theorem pieceS_no_amp (p : Pair) : (0x26 : UInt8) ∉ pieceS p := by
  intro hx
  simp only [pieceS, List.append_assoc, List.singleton_append, List.mem_append, List.mem_cons] at hx
  rcases hx with h | h | h
  · exact (encoded_no_delims p.1 _ h).1 rfl
  · revert h; decide
  · exact (encoded_no_delims p.2 _ h).1 rfl

theorem parse_pieceS (p : Pair) :
    (Spec.formDecode (Spec.cutAt 0x3D (pieceS p)).1, Spec.formDecode ((Spec.cutAt 0x3D (pieceS p)).2.getD [])) = p := by
  unfold pieceS
  rw [List.append_assoc, List.singleton_append,
    cutAt_some _ _ _ fun h => (encoded_no_delims p.1 _ h).2.1 rfl]
  simp only [Option.getD_some, formDecode_encode]

theorem formSerialize_cons (p : Pair) (l : Spec.Pairs) :
    Spec.formSerialize (p :: l) = if l = [] then pieceS p else pieceS p ++ 0x26 :: Spec.formSerialize l := by
  cases l with
  | nil => rfl
  | cons q r => simp [Spec.formSerialize, pieceS]

theorem splitOn_formSerialize (p : Pair) (l : Spec.Pairs) :
    Spec.splitOn 0x26 (Spec.formSerialize (p :: l)) = (p :: l).map pieceS := by
  induction l generalizing p with
  | nil => exact splitOn_no_sep _ _ (pieceS_no_amp p)
  | cons q r ih =>
    rw [formSerialize_cons, if_neg (by simp), splitOn_append _ _ _ (pieceS_no_amp p), ih q]
    rfl

/-- a serialized list does not begin with `?`, so the parser strips nothing -/
theorem formSerialize_head (p : Pair) (l : Spec.Pairs) (r : Bytes) : Spec.formSerialize (p :: l) ≠ 0x3F :: r := by
  have ⟨t, ht⟩ : ∃ t, Spec.formSerialize (p :: l) = Spec.percentEncodeForm p.1 ++ 0x3D :: t := by
    rw [formSerialize_cons]; unfold pieceS; split <;> simp
  rw [ht]
  cases hk : Spec.percentEncodeForm p.1 with
  | nil => intro h; injection h with h _; revert h; decide
  | cons x xs =>
    intro h; injection h with h _
    exact (encoded_no_delims p.1 x (by rw [hk]; simp)).2.2 h

/-- Round trip in the Standard's own terms: the urlencoded parser inverts the urlencoded serializer on every
    list of pairs of byte strings. -/
theorem formParse_formSerialize (l : Spec.Pairs) : Spec.formParse (Spec.formSerialize l) = l := by
  cases l with
  | nil => rfl
  | cons p l =>
    unfold Spec.formParse
    split
    · rename_i r heq; exact absurd heq (formSerialize_head p l r)
    · unfold Spec.formParseBody
      rw [splitOn_formSerialize, List.filter_eq_self.mpr, List.map_map]
      · conv => rhs; rw [← List.map_id (p :: l)]
        exact List.map_congr_left fun q _ => parse_pieceS q
      · intro a ha
        obtain ⟨q, _, rfl⟩ := List.mem_map.mp ha
        simp [pieceS]

theorem parse_toString (l : USP) : USP.parse (USP.toString l) = l := by
  rw [toString_eq_spec, parse_eq_spec, formParse_formSerialize]

end AdaVerif.Lemmas
