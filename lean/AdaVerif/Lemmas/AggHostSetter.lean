import AdaVerif.Model.AggHostSetter
import AdaVerif.Lemmas.HostSetter
import AdaVerif.Lemmas.AggSetPathname
/-
`url_aggregator::set_host` / `set_hostname` on the buffer of a record = the Standard's host setters, under the same side
condition as for `ada::url` (Lemmas/HostSetter.lean).
-/
namespace AdaVerif.Lemmas.AggL
open AdaVerif AdaVerif.Spec AdaVerif.Model AdaVerif.Model.Agg AdaVerif.Model.HostParse AdaVerif.Model.UrlRec

theorem dropDashDot_layout (l : L) (h : l.dashdot = true → l.port = none ∧ l.opq = false) :
    dropDashDot (layout l) = layout { l with dashdot := false } := by
  unfold dropDashDot
  rw [hasDashDot_eq l (fun hd => (h hd).1)]
  cases hd : l.dashdot
  · simp only [Bool.false_and, Bool.false_eq_true, ↓reduceIte]
    congr 1
    cases l; simp_all
  · have ho : (!l.opq) = true := by rw [(h hd).2]; rfl
    simp only [ho, Bool.and_self, ↓reduceIte]
    exact deleteDashDot_layout l hd (h hd).1

theorem ofUrl_host (u : Url) (h : Host) :
    ofUrl { u with host := some h } = { ofUrl u with auth := true, host := h.serialize, dashdot := false } := by
  simp [ofUrl, Url.pathSerialized]

theorem parseHostAgg_eq (idna : Idna) (u : Url) (ok : CredOk u) (buf : Bytes) (hne : buf ≠ []) (hid : ∀ d, HP.IdnaAt idna d) :
    parseHostAgg idna u.isSpecial (layout (ofUrl u)) buf =
      (hostParse idna buf (!u.isSpecial)).map (fun h => layout { ofUrl u with auth := true, host := h.serialize }) := by
  unfold parseHostAgg
  rw [HP.parseHostA_eq, HP.parseHost_eq idna u.isSpecial buf hne (hid _)]
  cases hostParse idna buf (!u.isSpecial) with
  | none => rfl
  | some h =>
    simp only [Option.map_some, HP.viewH]
    rw [updateBaseHostname_layout (ofUrl u) _ (noAuthNoCred_ofUrl u ok)]

theorem host_written (u : Url) (ok : CredOk u) (h : Host) :
    dropDashDot (layout { ofUrl u with auth := true, host := h.serialize }) = layout (ofUrl { u with host := some h }) := by
  rw [dropDashDot_layout, ofUrl_host]
  intro hd
  have hd' : (ofUrl u).dashdot = true := hd
  obtain ⟨_, ho, hp⟩ := dashDotOk_ofUrl u ok hd'
  exact ⟨hp, ho⟩

theorem hostSetterPortA_eq (u : Url) (hh : u.host.isSome = true) (t : Bytes) :
    hostSetterPortA ((defaultPort u.scheme).getD 0) (layout (ofUrl u)) t = layout (ofUrl (portOverride u t)) := by
  unfold hostSetterPortA portOverride
  cases t with
  | nil => simp
  | cons c r =>
    simp only
    by_cases hd : isAsciiDigit c = true
    · have hne : ((c :: r).takeWhile isAsciiDigit).isEmpty = false := by simp [hd]
      simp only [hd, Bool.not_true, Bool.false_eq_true, ↓reduceIte, hne]
      by_cases hbig : parseRadix 10 ((c :: r).takeWhile isAsciiDigit) > 65535
      · simp [hbig]
      · simp only [hbig, ↓reduceIte]
        rw [UR.portValid_eq]
        generalize parseRadix 10 ((c :: r).takeWhile isAsciiDigit) = p
        by_cases hdp : (defaultPort u.scheme == some p) = true
        · simp only [hdp, Bool.not_true, Bool.false_eq_true, ↓reduceIte]
          exact clearPort_ofUrl u hh
        · have hdp' : (defaultPort u.scheme == some p) = false := by simpa using hdp
          simp only [hdp', Bool.not_false, ↓reduceIte, Bool.false_eq_true]
          exact updateBasePort_ofUrl u p hh
    · have hd' : isAsciiDigit c = false := by simpa using hd
      simp [hd']

theorem hasPort_layout (u : Url) (ok : CredOk u) : hasPort (layout (ofUrl u)) = u.port.isSome := by
  unfold hasPort hasHostname
  rw [hasAuthority_layout _ (noAuthNoCred_ofUrl u ok)]
  cases hh : u.host with
  | none =>
    obtain ⟨_, _, hp⟩ := ok.hostless hh
    simp [ofUrl, hh, hp]
  | some h =>
    cases hp : u.port with
    | none => simp [ofUrl, layout, hh, hp, portS, ddS]
    | some p => simp [ofUrl, layout, hh, hp, portS, ddS]

/-- an empty host on the buffer: `clear_hostname`, or the "//" alone (with the "/." guard dropped) -/
theorem emptyHost_layout (u : Url) (ok : CredOk u) (hna : TailNoAt (ofUrl u)) :
    (if hasHostname (layout (ofUrl u)) then clearHostname (layout (ofUrl u))
     else if hasDashDot (layout (ofUrl u)) then deleteDashDot (addAuthoritySlashes (layout (ofUrl u)))
     else addAuthoritySlashes (layout (ofUrl u))) = layout (ofUrl { u with host := some .empty }) := by
  have hnc := noAuthNoCred_ofUrl u ok
  have hdo := dashDotOk_ofUrl u ok
  unfold hasHostname
  rw [hasAuthority_layout _ hnc, hasDashDot_layout _ hdo, ofUrl_host]
  cases hh : u.host with
  | none =>
    have ha : (ofUrl u).auth = false := by simp [ofUrl, hh]
    simp only [ha, Bool.false_eq_true, ↓reduceIte]
    rw [addAuthoritySlashes_layout _ hnc]
    cases hd : (ofUrl u).dashdot
    · simp only [Bool.false_eq_true, ↓reduceIte]
      congr 1
      have hhost : (ofUrl u).host = [] := by simp [ofUrl, hh]
      cases hl : ofUrl u; simp_all [Host.serialize]
    · simp only [↓reduceIte]
      obtain ⟨_, _, hp⟩ := hdo hd
      have hdel := deleteDashDot_layout { ofUrl u with auth := true, dashdot := true } rfl hp
      rw [hdel]
      congr 1
      have hhost : (ofUrl u).host = [] := by simp [ofUrl, hh]
      cases hl : ofUrl u; simp_all [Host.serialize]
  | some h =>
    have ha : (ofUrl u).auth = true := by simp [ofUrl, hh]
    have hd : (ofUrl u).dashdot = false := by simp [ofUrl, hh]
    simp only [ha, ↓reduceIte]
    rcases clearHostname_layout (ofUrl u) hnc hna with e | e
    · rw [e]
      congr 1
      cases hl : ofUrl u; simp_all [Host.serialize]
    · rw [ha] at e; cases e

theorem clearHostname_ofUrl (u : Url) (ok : CredOk u) (hna : TailNoAt (ofUrl u)) (hsome : u.host.isSome = true) :
    clearHostname (layout (ofUrl u)) = layout (ofUrl { u with host := some .empty }) := by
  have := emptyHost_layout u ok hna
  unfold hasHostname at this
  rw [hasAuthority_layout _ (noAuthNoCred_ofUrl u ok)] at this
  have ha : (ofUrl u).auth = true := hsome
  simpa [ha] using this

theorem hostSlice_layout (l : L) : slice (layout l).buf (layout l).hs (layout l).he = atS l.user l.pass ++ l.host := by
  have c := cut_hs l
  rw [tailS, ← List.append_assoc] at c
  exact c.slice (by layout_arith [])

/-- `url_aggregator::set_host` / `set_hostname`: the buffer is left holding the Standard's host-setter result when
    that fits the limit, and as it was otherwise -/
theorem setHostA_eq (hn : Bool) (idna : Idna) (L : Nat) (u : Url) (v : Bytes) (ok : CredOk u) (hna : TailNoAt (ofUrl u))
    (hfile : u.scheme = bFile → u.host.isSome = true ∧ u.username = [] ∧ u.password = [])
    (hid : ∀ d, HP.IdnaAt idna d)
    (hclean : u.scheme ≠ bFile → HS.bracketClean u.isSpecial false (stripTN (v.takeWhile (· != 0x23))) = true) :
    (setHostA hn idna L u.isSpecial (u.scheme == bFile) ((defaultPort u.scheme).getD 0) (layout (ofUrl u)) v).1 =
      if (layout (ofUrl (setHostGeneric hn idna u v))).buf.length ≤ L then layout (ofUrl (setHostGeneric hn idna u v))
      else layout (ofUrl u) := by
  unfold setHostA setHostGeneric
  have hopq : (layout (ofUrl u)).opq = u.isOpaque := rfl
  rw [hopq]
  by_cases ho : u.isOpaque = true
  · simp only [ho, ↓reduceIte]; exact (ite_self _).symm
  · have ho' : u.isOpaque = false := by simpa using ho
    simp only [ho, Bool.false_eq_true, ↓reduceIte, HS.strip_cut]
    generalize hsdef : stripTN v = s
    by_cases hfl : u.scheme = bFile
    · -- file host state
      obtain ⟨hsome, hfu, hfp⟩ := hfile hfl
      have hfb : (u.scheme == bFile) = true := by simp [hfl]
      simp only [hfb, Bool.not_true, Bool.false_eq_true, ↓reduceIte, HS.fileHost_eq]
      generalize (s.takeWhile (· != 0x23)).takeWhile (fun c => !(c == 0x2F || c == 0x5C || c == 0x3F)) = fh
      have hclr := clearHostname_ofUrl u ok hna hsome
      by_cases he : fh.isEmpty = true
      · simp only [he, ↓reduceIte, hclr]
        simp only [ho']; exact UR.ite_gt_fst _ _ _ _
      · simp only [he, Bool.false_eq_true, ↓reduceIte]
        have hne : fh ≠ [] := by intro e; subst e; simp at he
        have hspf : u.isSpecial = true := by simp [Url.isSpecial, hfl, isSpecialScheme]
        rw [parseHostAgg_eq idna u ok fh hne hid, hspf]
        simp only [Bool.not_true]
        cases hp : hostParse idna fh false with
        | none => simp only [Option.map_none]; exact (ite_self _).symm
        | some h =>
          simp only [Option.map_some]
          -- a file URL has a host and no credentials: the record with the new host is already laid out
          have hl1 : ({ ofUrl u with auth := true, host := h.serialize } : Model.Agg.L) = ofUrl { u with host := some h } := by
            rw [ofUrl_host]
            cases hh : u.host with
            | none => simp [hh] at hsome
            | some x => simp [ofUrl, hh]
          rw [hl1, hostSlice_layout]
          have hat : atS (ofUrl { u with host := some h }).user (ofUrl { u with host := some h }).pass = [] := by
            simp [ofUrl, hfu, hfp, atS]
          have hhost : (ofUrl { u with host := some h }).host = h.serialize := by simp [ofUrl]
          rw [hat, hhost, List.nil_append, HS.serialize_localhost idna fh h hp]
          by_cases hl : (h == Host.domain bLocalhost) = true
          · simp only [hl, ↓reduceIte]
            have hh' : h = Host.domain bLocalhost := by simpa using hl
            subst hh'
            -- clear_hostname on the buffer that now holds "localhost"
            have ok1 : CredOk { u with host := some (Host.domain bLocalhost) } := by
              refine ⟨?_, ?_, ?_⟩
              · intro hx; cases hx
              · intro hx; injection hx with hx; cases hx
              · intro h2 hx _; injection hx with hx; subst hx; simp [Host.serialize, bLocalhost]
            have hna1 : TailNoAt (ofUrl { u with host := some (Host.domain bLocalhost) }) := by
              simp [TailNoAt, ofUrl, Host.serialize, bLocalhost]
            have := clearHostname_ofUrl { u with host := some (Host.domain bLocalhost) } ok1 hna1 rfl
            rw [this]
            simp only [ho']; exact UR.ite_gt_fst _ _ _ _
          · simp only [hl, Bool.false_eq_true, ↓reduceIte]
            simp only [ho']; exact UR.ite_gt_fst _ _ _ _
    · -- host state
      have hfb : (u.scheme == bFile) = false := by simpa using hfl
      simp only [hfb, Bool.not_false, ↓reduceIte, Bool.false_eq_true, HS.upto_eq, hasCredentials_layout u ok, hasPort_layout u ok]
      have hcl := hclean hfl
      rw [HS.strip_cut, hsdef] at hcl
      generalize hN : s.takeWhile (· != 0x23) = N at hcl
      rw [HS.split_agree u.isSpecial N hcl]
      generalize hup : N.takeWhile (fun b => !isHardDelim u.isSpecial b) = upto
      by_cases hcolon : hostEnd upto < upto.length
      · simp only [hcolon, ↓reduceIte]
        have htk : N.take (hostEnd upto) = upto.take (hostEnd upto) := by
          rw [← hup]; exact take_upto _ N _ (by rw [hup]; omega)
        rw [htk]
        by_cases hbe : (upto.take (hostEnd upto)).isEmpty = true
        · simp only [hbe, ↓reduceIte]; exact (ite_self _).symm
        · simp only [hbe, Bool.false_eq_true, ↓reduceIte]
          cases hn with
          | true => simp only [↓reduceIte]; exact (ite_self _).symm
          | false =>
            simp only [Bool.false_eq_true, ↓reduceIte]
            have hne : upto.take (hostEnd upto) ≠ [] := by intro e; rw [e] at hbe; simp at hbe
            rw [parseHostAgg_eq idna u ok _ hne hid]
            cases hp : hostParse idna (upto.take (hostEnd upto)) (!u.isSpecial) with
            | none => simp only [Option.map_none]; exact (ite_self _).symm
            | some h =>
              simp only [Option.map_some]
              rw [host_written u ok h]
              have hsch : ({ u with host := some h } : Url).scheme = u.scheme := rfl
              have hport := hostSetterPortA_eq { u with host := some h } rfl (N.drop (hostEnd upto + 1))
              rw [hsch] at hport
              rw [hport]
              have hdig : portOverride { u with host := some h } (N.drop (hostEnd upto + 1)) =
                  portOverride { u with host := some h } (s.drop (hostEnd upto + 1)) := by
                unfold portOverride
                have hk : hostEnd upto + 1 ≤ N.length := by
                  have h1 : upto.length ≤ N.length := by
                    rw [← hup]; exact (List.takeWhile_prefix (p := fun b => !isHardDelim u.isSpecial b)).length_le
                  omega
                rw [← hN] at hk ⊢
                rw [HS.digits_same s _ hk]
              rw [hdig]
              simp only [ho']; exact UR.ite_gt_fst _ _ _ _
      · simp only [hcolon, ↓reduceIte]
        have htk : N.take upto.length = upto := by
          rw [← hup, take_upto (fun b => !isHardDelim u.isSpecial b) N _ (Nat.le_refl _), List.take_length]
        rw [htk]
        by_cases hue : upto.isEmpty = true
        · have hunil : upto = [] := by cases upto <;> simp_all
          simp only [hue, Bool.true_and, Bool.and_true]
          cases hs : u.isSpecial
          · simp only [Bool.false_eq_true, ↓reduceIte, Bool.not_false]
            by_cases hcp : (u.includesCredentials || u.port.isSome) = true
            · simp only [hcp, ↓reduceIte]; exact (ite_self _).symm
            · simp only [hcp, Bool.false_eq_true, ↓reduceIte]
              have hp : hostParse idna upto true = some (.opaqueHost []) := by
                rw [hunil]; simp [hostParse, opaqueHostParse, Spec.percentEncode]
              rw [hp]
              simp only
              rw [emptyHost_layout u ok hna]
              simp only [ho']; exact UR.ite_gt_fst _ _ _ _
          · simp only [↓reduceIte]; exact (ite_self _).symm
        · have hue' : upto.isEmpty = false := by simpa using hue
          simp only [hue', Bool.false_and, Bool.and_false, Bool.false_eq_true, ↓reduceIte]
          have hne : upto ≠ [] := by intro e; rw [e] at hue'; simp at hue'
          rw [parseHostAgg_eq idna u ok _ hne hid]
          cases hp : hostParse idna upto (!u.isSpecial) with
          | none => simp only [Option.map_none]; exact (ite_self _).symm
          | some h =>
            simp only [Option.map_some]
            rw [host_written u ok h]
            simp only [ho']; exact UR.ite_gt_fst _ _ _ _

end AdaVerif.Lemmas.AggL
