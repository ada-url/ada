import AdaVerif.Lemmas.Agg
import AdaVerif.Model.AggLayout
/-
Every editor of the single buffer commutes with `layout`: editing the laid-out buffer in place
(insert / erase / resize plus offset arithmetic) gives exactly the layout of the edited content.

The laid-out buffer is cut at each of its offsets (`cut_pe` … `cut_hh`), the buffer operations of an
editor are read through `Cut`, and what is left is linear arithmetic on segment lengths.
-/
namespace AdaVerif.Lemmas.AggL
open AdaVerif AdaVerif.Model.Agg

def tailS (l : L) : Bytes := l.host ++ (portS l.port ++ (ddS l.dashdot ++ (l.path ++ (queryS l.query ++ fragS l.frag))))

def headS (l : L) : Bytes :=
  l.scheme ++ authS l.auth ++ l.user ++ passS l.pass ++ atS l.user l.pass ++ l.host ++ portS l.port ++ ddS l.dashdot

theorem layout_buf (l : L) : (layout l).buf = l.scheme ++ authS l.auth ++ l.user ++ passS l.pass ++ atS l.user l.pass ++ l.host ++
    portS l.port ++ ddS l.dashdot ++ l.path ++ queryS l.query ++ fragS l.frag := rfl
theorem layout_pe (l : L) : (layout l).pe = l.scheme.length := rfl
theorem layout_ue (l : L) : (layout l).ue = l.scheme.length + (authS l.auth).length + l.user.length := rfl
theorem layout_hs (l : L) : (layout l).hs = l.scheme.length + (authS l.auth).length + l.user.length + (passS l.pass).length := rfl
theorem layout_he (l : L) : (layout l).he = l.scheme.length + (authS l.auth).length + l.user.length + (passS l.pass).length +
    (atS l.user l.pass).length + l.host.length := rfl
theorem layout_ps (l : L) : (layout l).ps = l.scheme.length + (authS l.auth).length + l.user.length + (passS l.pass).length +
    (atS l.user l.pass).length + l.host.length + (portS l.port).length + (ddS l.dashdot).length := rfl
theorem layout_ss (l : L) : (layout l).ss = if l.query.isSome then some ((layout l).ps + l.path.length) else none := rfl
theorem layout_hh (l : L) : (layout l).hh =
    if l.frag.isSome then some ((layout l).ps + l.path.length + (queryS l.query).length) else none := rfl
theorem layout_port (l : L) : (layout l).port = l.port.map (·.1) := rfl

theorem agg_ext {a b : Agg} (h1 : a.buf = b.buf) (h2 : a.pe = b.pe) (h3 : a.ue = b.ue) (h4 : a.hs = b.hs) (h5 : a.he = b.he)
    (h6 : a.port = b.port) (h7 : a.ps = b.ps) (h8 : a.ss = b.ss) (h9 : a.hh = b.hh) (h10 : a.opq = b.opq) : a = b := by
  cases a; cases b; simp_all

theorem mk_ext {b : Agg} {buf : Bytes} {pe ue hs he ps : Nat} {port ss hh : Option Nat} {opq : Bool} (h1 : buf = b.buf) (h2 : pe = b.pe)
    (h3 : ue = b.ue) (h4 : hs = b.hs) (h5 : he = b.he) (h6 : port = b.port) (h7 : ps = b.ps) (h8 : ss = b.ss) (h9 : hh = b.hh)
    (h10 : opq = b.opq) : Agg.mk buf pe ue hs he port ps ss hh opq = b :=
  agg_ext h1 h2 h3 h4 h5 h6 h7 h8 h9 h10

/-- closes a linear relation between offsets: the fields of the layouts become sums of segment lengths, the extra lemmas
    say what the segments are in the case at hand (`shift` opens the model's `Int` arithmetic), `omega` does the rest -/
macro "layout_arith" "[" ts:Lean.Parser.Tactic.simpLemma,* "]" : tactic =>
  `(tactic| (simp only [layout_pe, layout_ue, layout_hs, layout_he, layout_ps, List.length_append, List.length_cons,
      List.length_nil, $ts,*] <;> omega))

theorem authS_false : authS false = [] := rfl
theorem authS_true : authS true = [0x2F, 0x2F] := rfl
theorem passS_nil : passS [] = [] := rfl
theorem ddS_false : ddS false = [] := rfl
theorem ddS_true : ddS true = [0x2F, 0x2E] := rfl

theorem ss_shift (l l' : L) (d : Int) (hq : l'.query = l.query)
    (h : (((layout l).ps + l.path.length : Nat) : Int) + d = ((layout l').ps + l'.path.length : Nat)) :
    shiftO (layout l).ss d = (layout l').ss := by
  rw [layout_ss, layout_ss, hq]; exact shiftO_eq h

theorem hh_shift (l l' : L) (d : Int) (hf : l'.frag = l.frag)
    (h : (((layout l).ps + l.path.length + (queryS l.query).length : Nat) : Int) + d =
      ((layout l').ps + l'.path.length + (queryS l'.query).length : Nat)) :
    shiftO (layout l).hh d = (layout l').hh := by
  rw [layout_hh, layout_hh, hf]; exact shiftO_eq h

/-- `search_start` and `hash_start` move with `pathname_start` when path, query and fragment stay -/
theorem mk_behind (l : L) {l' : L} {d : Int} {b : Bytes} {pe ue hs he ps : Nat} {port : Option Nat}
    (hp : l'.path = l.path) (hq : l'.query = l.query) (hf : l'.frag = l.frag) (ho : l'.opq = l.opq)
    (h1 : b = (layout l').buf) (h2 : pe = (layout l').pe) (h3 : ue = (layout l').ue) (h4 : hs = (layout l').hs)
    (h5 : he = (layout l').he) (h6 : port = (layout l').port) (h7 : ps = (layout l').ps) (hd : ((layout l).ps : Int) + d = (layout l').ps) :
    Agg.mk b pe ue hs he port ps (shiftO (layout l).ss d) (shiftO (layout l).hh d) (layout l).opq = layout l' := by
  subst h7
  exact mk_ext h1 h2 h3 h4 h5 h6 rfl (ss_shift l l' d hq (by rw [hp]; omega)) (hh_shift l l' d hf (by rw [hp, hq]; omega)) ho.symm

theorem cut_pe (l : L) : Cut (layout l).buf (layout l).pe l.scheme
    (authS l.auth ++ (l.user ++ (passS l.pass ++ (atS l.user l.pass ++ tailS l)))) :=
  ⟨by simp only [layout_buf, tailS, List.append_assoc], rfl⟩
theorem cut_auth (l : L) : Cut (layout l).buf ((layout l).pe + (authS l.auth).length) (l.scheme ++ authS l.auth)
    (l.user ++ (passS l.pass ++ (atS l.user l.pass ++ tailS l))) := (cut_pe l).next rfl
theorem cut_ue (l : L) : Cut (layout l).buf (layout l).ue (l.scheme ++ authS l.auth ++ l.user)
    (passS l.pass ++ (atS l.user l.pass ++ tailS l)) := (cut_auth l).next rfl
theorem cut_hs (l : L) : Cut (layout l).buf (layout l).hs (l.scheme ++ authS l.auth ++ l.user ++ passS l.pass)
    (atS l.user l.pass ++ tailS l) := (cut_ue l).next rfl
theorem cut_host (l : L) : Cut (layout l).buf ((layout l).hs + (atS l.user l.pass).length)
    (l.scheme ++ authS l.auth ++ l.user ++ passS l.pass ++ atS l.user l.pass) (tailS l) := (cut_hs l).next rfl
theorem cut_he (l : L) : Cut (layout l).buf (layout l).he
    (l.scheme ++ authS l.auth ++ l.user ++ passS l.pass ++ atS l.user l.pass ++ l.host)
    (portS l.port ++ (ddS l.dashdot ++ (l.path ++ (queryS l.query ++ fragS l.frag)))) := (cut_host l).next rfl
theorem cut_ps (l : L) : Cut (layout l).buf (layout l).ps (headS l) (l.path ++ (queryS l.query ++ fragS l.frag)) :=
  ((cut_he l).next rfl).next rfl
theorem cut_ss (l : L) : Cut (layout l).buf ((layout l).ps + l.path.length) (headS l ++ l.path) (queryS l.query ++ fragS l.frag) :=
  (cut_ps l).next rfl
theorem cut_hh (l : L) : Cut (layout l).buf ((layout l).ps + l.path.length + (queryS l.query).length)
    (headS l ++ l.path ++ queryS l.query) (fragS l.frag) :=
  ⟨by rw [(cut_ss l).buf]; simp only [List.append_assoc], by rw [List.length_append, (cut_ss l).idx]⟩

theorem cut_user (l : L) (ha : l.auth = true) : Cut (layout l).buf ((layout l).pe + 2) (l.scheme ++ authS l.auth)
    (l.user ++ (passS l.pass ++ (atS l.user l.pass ++ tailS l))) := ⟨(cut_auth l).buf, by layout_arith [ha, authS_true]⟩
theorem cut_ue_nopass (l : L) (hp : l.pass = []) : Cut (layout l).buf (layout l).ue (l.scheme ++ authS l.auth ++ l.user)
    (atS l.user [] ++ tailS l) := by
  have c := cut_ue l; rwa [hp, passS_nil, List.nil_append] at c

theorem append_query {out R : Bytes} (q : Option Bytes) (h : out = R) :
    (match q with | some q => out ++ [0x3F] ++ q | none => out) = R ++ queryS q := by
  subst h; cases q <;> simp [queryS]
theorem append_frag {out R : Bytes} (f : Option Bytes) (h : out = R) :
    (match f with | some f => out ++ [0x23] ++ f | none => out) = R ++ fragS f := by
  subst h; cases f <;> simp [fragS]

theorem auth_slice (l : L) (ha : l.auth = true) :
    slice (layout l).buf (layout l).pe (layout l).hs = [0x2F, 0x2F] ++ (l.user ++ passS l.pass) := by
  have c : Cut (layout l).buf (layout l).pe l.scheme (([0x2F, 0x2F] ++ (l.user ++ passS l.pass)) ++ (atS l.user l.pass ++ tailS l)) :=
    ⟨by rw [(cut_pe l).buf, ha]; simp [authS], rfl⟩
  exact c.slice (by layout_arith [ha, authS_true])

theorem with_self (l : L) : ({ l with dashdot := l.dashdot } : L) = l := by cases l; rfl

theorem clearHash_layout (l : L) : clearHash (layout l) = layout { l with frag := none } := by
  cases hf : l.frag with
  | none => simp only [clearHash, layout_hh, hf]; exact congrArg layout (by cases l; cases hf; rfl)
  | some f =>
    simp only [clearHash, layout_hh, hf, Option.isSome_some, ↓reduceIte, (cut_hh l).sresize]
    exact agg_ext (by simp only [layout_buf, headS, fragS, List.append_nil]) rfl rfl rfl rfl rfl rfl rfl rfl rfl

theorem updateBaseHash_layout (l : L) (x : Bytes) : updateBaseHash (layout l) x = layout { l with frag := some x } := by
  have hb : updateBaseHash (layout l) x =
      { layout l with hh := some (headS l ++ l.path ++ queryS l.query).length, buf := headS l ++ l.path ++ queryS l.query ++ [0x23] ++ x } := by
    cases hf : l.frag with
    | none =>
      simp only [updateBaseHash, layout_hh, hf]
      rw [(cut_hh l).buf, hf, fragS, List.append_nil]; rfl
    | some f => simp only [updateBaseHash, layout_hh, hf, Option.isSome_some, ↓reduceIte, (cut_hh l).sresize]
  rw [hb]
  refine agg_ext ?_ rfl rfl rfl rfl rfl rfl rfl (congrArg some (cut_hh l).idx.symm) rfl
  simp only [layout_buf, headS, fragS, List.append_assoc, List.cons_append, List.nil_append]

theorem clearSearch_layout (l : L) : clearSearch (layout l) = layout { l with query := none } := by
  cases hq : l.query with
  | none =>
    simp only [clearSearch, layout_ss, hq, Option.isSome_none, Bool.false_eq_true, ↓reduceIte]
    exact congrArg layout (by cases l; cases hq; rfl)
  | some q =>
    have hs : (layout l).ss = some ((layout l).ps + l.path.length) := by rw [layout_ss, hq]; rfl
    cases hf : l.frag with
    | none =>
      have hh : (layout l).hh = none := by rw [layout_hh, hf]; rfl
      simp only [clearSearch, hs, hh, (cut_ss l).sresize]
      refine mk_ext ?_ rfl rfl rfl rfl rfl rfl rfl ?_ rfl
      · simp only [layout_buf, headS, queryS, fragS, List.append_nil]
      · rfl
    | some f =>
      have hh : (layout l).hh = some ((layout l).ps + l.path.length + (queryS l.query).length) := by rw [layout_hh, hf]; rfl
      simp only [clearSearch, hs, hh, (cut_ss l).serase (M := queryS l.query) (Nat.add_sub_cancel_left ..)]
      refine mk_ext ?_ rfl rfl rfl rfl rfl rfl rfl ?_ rfl
      · simp only [layout_buf, headS, queryS, hf, List.append_nil]
      · rfl

theorem updateBaseSearch_layout (l : L) (x : Bytes) :
    updateBaseSearch (layout l) x = layout { l with query := some x } := by
  have c := cut_ss l
  cases hf : l.frag with
  | none =>
    have hh : (layout l).hh = none := by rw [layout_hh, hf]; rfl
    cases hq : l.query with
    | none =>
      -- nothing behind the path: "?x" is appended
      have hs : (layout l).ss = none := by rw [layout_ss, hq]; rfl
      have hb : (layout l).buf = headS l ++ l.path := by rw [c.buf, hq, hf]; exact List.append_nil _
      simp only [updateBaseSearch, hh, hs]
      refine mk_ext ?_ rfl rfl rfl rfl rfl rfl (congrArg some ?_) rfl rfl
      · rw [hb]; simp only [layout_buf, headS, queryS, fragS, List.append_assoc, List.cons_append, List.nil_append, List.append_nil]
      · rw [hb, ← c.idx]; rfl
    | some q =>
      -- the old query is cut off behind its '?'
      have hs : (layout l).ss = some ((layout l).ps + l.path.length) := by rw [layout_ss, hq]; rfl
      rw [hq, hf] at c
      simp only [updateBaseSearch, hh, hs, (c.next (M := [0x3F]) (B := q ++ fragS none) (j := (layout l).ps + l.path.length + 1) rfl).sresize]
      refine mk_ext ?_ rfl rfl rfl rfl rfl rfl rfl rfl rfl
      simp only [layout_buf, headS, queryS, fragS, List.append_assoc, List.cons_append, List.nil_append, List.append_nil]
  | some f =>
    have hh : (layout l).hh = some ((layout l).ps + l.path.length + (queryS l.query).length) := by rw [layout_hh, hf]; rfl
    cases hq : l.query with
    | none =>
      have hs : (layout l).ss = none := by rw [layout_ss, hq]; rfl
      have c0 : Cut (layout l).buf ((layout l).ps + l.path.length) (headS l ++ l.path) (fragS l.frag) := by rw [hq] at c; exact c
      rw [hq] at hh
      simp only [updateBaseSearch, hh, hs, queryS, List.length_nil, Nat.add_zero, c0.sinsert,
        (Cut.after c0.idx [0x3F] (j := (layout l).ps + l.path.length + 1) rfl).sinsert]
      refine mk_ext ?_ rfl rfl rfl rfl rfl rfl rfl (congrArg some ?_) rfl
      · simp only [layout_buf, headS, queryS, hf, List.append_assoc, List.cons_append, List.nil_append, List.append_nil]
      · layout_arith [queryS]
    | some q =>
      have hs : (layout l).ss = some ((layout l).ps + l.path.length) := by rw [layout_ss, hq]; rfl
      simp only [updateBaseSearch, hh, hs, c.serase (M := queryS l.query) (Nat.add_sub_cancel_left ..),
        (Cut.mk rfl c.idx).sinsert, (Cut.after c.idx [0x3F] (j := (layout l).ps + l.path.length + 1) rfl).sinsert]
      refine mk_ext ?_ rfl rfl rfl rfl rfl rfl rfl (congrArg some ?_) rfl
      · simp only [layout_buf, headS, queryS, hf, List.append_assoc, List.cons_append, List.nil_append, List.append_nil]
      · layout_arith [queryS]

theorem clearPort_layout (l : L) (hdd : l.dashdot = false) : clearPort (layout l) = layout { l with port := none } := by
  cases hp : l.port with
  | none => simp only [clearPort, layout_port, hp, Option.map_none]; exact congrArg layout (by cases l; cases hp; rfl)
  | some pd =>
    simp only [clearPort, layout_port, hp, Option.map_some]
    rw [(cut_he l).serase (M := portS l.port) (by layout_arith [hdd, ddS_false])]
    refine mk_behind l rfl rfl rfl rfl ?_ rfl rfl rfl rfl rfl ?_ ?_
    · simp only [layout_buf, portS, List.append_assoc, List.append_nil]
    all_goals layout_arith [hdd, ddS_false, portS]

theorem updateBasePort_layout (l : L) (p : Nat) (digits : Bytes) (hdd : l.dashdot = false) :
    updateBasePort (layout l) p digits = layout { l with port := some (p, digits) } := by
  cases hp : l.port with
  | none =>
    simp only [updateBasePort, layout_port, hp, Option.map_none]
    rw [(cut_he l).sinsert]
    refine mk_behind l rfl rfl rfl rfl ?_ rfl rfl rfl rfl rfl (shift_eq ?h) ?h
    · simp only [layout_buf, hp, portS, List.append_assoc, List.nil_append]
    all_goals layout_arith [hp, portS]
  | some pd =>
    obtain ⟨pv, pd⟩ := pd
    simp only [updateBasePort, layout_port, hp, Option.map_some]
    rw [(cut_he l).serase (M := portS l.port) (by layout_arith [hdd, ddS_false]), (Cut.mk rfl (cut_he l).idx).sinsert]
    refine mk_behind l rfl rfl rfl rfl ?_ rfl rfl rfl rfl rfl (shift_eq ?h) ?h
    · simp only [layout_buf, portS, List.append_assoc]
    all_goals layout_arith [hp, portS, hdd, ddS_false]

/-- without "//" there are no credentials (nothing sits between the scheme and the host start) -/
def NoAuthNoCred (l : L) : Prop := l.auth = false → l.user = [] ∧ l.pass = []

theorem passS_head {p : Bytes} (h : p ≠ []) : passS p = 0x3A :: p := by cases p <;> simp_all [passS]
theorem passS_len_pos {p : Bytes} (h : p ≠ []) : 0 < (passS p).length := by rw [passS_head h]; exact Nat.succ_pos _
theorem atS_of_empty {u p : Bytes} (hu : u = []) (hp : p = []) : atS u p = [] := by rw [hu, hp]; rfl
theorem atS_of_cred {u p : Bytes} (h : ¬(u = [] ∧ p = [])) : atS u p = [0x40] := by
  cases u <;> cases p <;> simp_all [atS]
theorem cred_len {u p : Bytes} (h : ¬(u = [] ∧ p = [])) : 0 < u.length + (passS p).length := by
  cases u <;> cases p <;> simp_all [passS] <;> omega

theorem hasAuthority_layout (l : L) (h : NoAuthNoCred l) : hasAuthority (layout l) = l.auth := by
  unfold hasAuthority
  cases ha : l.auth
  · obtain ⟨hu, hp⟩ := h ha
    have : ¬ ((layout l).pe + 2 ≤ (layout l).hs) := by layout_arith [ha, hu, hp, authS_false, passS_nil]
    simp only [this, decide_false, Bool.false_and]
  · have h0 : at_ (layout l).buf (layout l).pe = 0x2F := by rw [(cut_pe l).at_, ha]; rfl
    have h1 : at_ (layout l).buf ((layout l).pe + 1) = 0x2F := by rw [(cut_pe l).at_add, ha]; rfl
    have h2 : (layout l).pe + 2 ≤ (layout l).hs := by layout_arith [ha, authS_true]
    simp only [h0, h1, h2, decide_true, beq_self_eq_true, Bool.and_self]

theorem addAuthoritySlashes_layout (l : L) (h : NoAuthNoCred l) :
    addAuthoritySlashes (layout l) = layout { l with auth := true } := by
  unfold addAuthoritySlashes
  rw [hasAuthority_layout l h]
  cases ha : l.auth
  · simp only [Bool.false_eq_true, ↓reduceIte]
    rw [(cut_pe l).sinsert]
    refine mk_behind l rfl rfl rfl rfl ?_ rfl ?_ ?_ ?_ rfl ?_ ?_
    · simp only [layout_buf, ha, authS_false, authS_true, tailS, List.append_assoc, List.nil_append]
    all_goals layout_arith [ha, authS_false, authS_true]
  · simp only [↓reduceIte]; exact congrArg layout (by cases l; cases ha; rfl)

theorem addAuthoritySlashes_auth (l : L) (ha : l.auth = true) : addAuthoritySlashes (layout l) = layout l := by
  rw [addAuthoritySlashes_layout l (fun h => by rw [ha] at h; cases h)]
  exact congrArg layout (by cases l; cases ha; rfl)

/-- `update_base_hostname`: the region [host_start, host_end) (which contains the '@') is replaced and
    the '@' re-inserted -/
theorem updateBaseHostname_auth (l : L) (x : Bytes) (ha : l.auth = true) :
    updateBaseHostname (layout l) x = layout { l with host := x } := by
  have c := cut_hs l
  rw [tailS, ← List.append_assoc] at c
  -- the '@' that went with the replaced region is put back exactly when there are credentials
  have key : ∀ P R : Bytes, (layout l).hs = P.length →
      (if (layout l).pe + 2 < (layout l).hs then
        (sinsert (P ++ (x ++ R)) (layout l).hs [0x40], (x.length : Int) - ((atS l.user l.pass ++ l.host).length : Int) + 1)
      else (P ++ (x ++ R), (x.length : Int) - ((atS l.user l.pass ++ l.host).length : Int))) =
      (P ++ (atS l.user l.pass ++ (x ++ R)), (x.length : Int) - (l.host.length : Int)) := by
    intro P R hP
    by_cases hc : l.user = [] ∧ l.pass = []
    · have hat := atS_of_empty hc.1 hc.2
      rw [if_neg (by layout_arith [ha, authS_true, hc.1, hc.2, passS_nil]), hat]
      exact Prod.ext rfl (by layout_arith [])
    · have hat := atS_of_cred hc
      have := cred_len hc
      rw [if_pos (by layout_arith [ha, authS_true]), (Cut.mk rfl hP).sinsert, hat]
      exact Prod.ext rfl (by layout_arith [])
  unfold updateBaseHostname
  rw [addAuthoritySlashes_auth l ha]
  simp only [c.replaceAndResize (j := (layout l).he) (by layout_arith []) x, key _ _ c.idx]
  refine mk_behind l rfl rfl rfl rfl ?_ rfl rfl rfl (shift_eq ?_) rfl (shift_eq ?h) ?h
  · simp only [layout_buf, List.append_assoc]
  all_goals layout_arith []

theorem updateBaseHostname_layout (l : L) (x : Bytes) (h : NoAuthNoCred l) :
    updateBaseHostname (layout l) x = layout { l with auth := true, host := x } := by
  have e : updateBaseHostname (layout l) x = updateBaseHostname (layout { l with auth := true }) x := by
    unfold updateBaseHostname
    rw [addAuthoritySlashes_layout l h, addAuthoritySlashes_auth _ rfl]
  rw [e]
  exact updateBaseHostname_auth { l with auth := true } x rfl

/-- the byte that follows the credentials is not '@' unless it is the credentials' own delimiter:
    host, port, path, query and fragment cannot begin with '@' in this position -/
def TailNoAt (l : L) : Prop :=
  (l.host ++ (portS l.port ++ (ddS l.dashdot ++ (l.path ++ (queryS l.query ++ fragS l.frag))))).headD 0 ≠ 0x40

theorem hostAt_layout (l : L) (hna : TailNoAt l) :
    (decide ((layout l).buf.length > (layout l).hs) && at_ (layout l).buf (layout l).hs == 0x40) =
      !(l.user.isEmpty && l.pass.isEmpty) := by
  rw [(cut_hs l).at_]
  by_cases hc : l.user = [] ∧ l.pass = []
  · have hT : ((tailS l).headD 0 == 0x40) = false := beq_false_of_ne hna
    rw [atS_of_empty hc.1 hc.2, List.nil_append, hT, hc.1, hc.2]; simp only [Bool.and_false]; rfl
  · have hl : (layout l).buf.length > (layout l).hs := by
      rw [(cut_hs l).buf, (cut_hs l).idx, atS_of_cred hc]; simp only [List.length_append, List.length_cons]; omega
    have : (l.user.isEmpty && l.pass.isEmpty) = false := by
      cases hu : l.user <;> cases hp : l.pass <;> simp_all
    rw [atS_of_cred hc, this]; simp only [hl, decide_true]; rfl

theorem hasNonEmptyPassword_layout (l : L) : hasNonEmptyPassword (layout l) = !l.pass.isEmpty := by
  unfold hasNonEmptyPassword
  cases hp : l.pass with
  | nil => exact decide_eq_false (by layout_arith [hp, passS_nil])
  | cons c r => exact decide_eq_true (by layout_arith [hp, passS_head (List.cons_ne_nil c r)])

/-- the last step of `update_base_username`: the '@' in front of the host is written or erased so that it is there
    exactly when there are credentials -/
theorem usernameAt (u p x : Bytes) {A T b0 : Bytes} {i : Nat} (d0 : Int) (cs : Cut b0 i A (atS u p ++ T)) :
    (if (!x.isEmpty && !!(u.isEmpty && p.isEmpty)) = true then (sinsert b0 i [0x40], d0 + 1)
     else if (x.isEmpty && !(u.isEmpty && p.isEmpty) && !!p.isEmpty) = true then (serase b0 i 1, d0 - 1) else (b0, d0)) =
    (A ++ (atS x p ++ T), d0 + (atS x p).length - (atS u p).length) := by
  have h1 : (!x.isEmpty && !!(u.isEmpty && p.isEmpty)) = true ↔ x ≠ [] ∧ u = [] ∧ p = [] := by
    cases x <;> cases u <;> cases p <;> simp
  have h2 : (x.isEmpty && !(u.isEmpty && p.isEmpty) && !!p.isEmpty) = true ↔ x = [] ∧ u ≠ [] ∧ p = [] := by
    cases x <;> cases u <;> cases p <;> simp
  by_cases hA : x ≠ [] ∧ u = [] ∧ p = []
  · rw [atS_of_empty hA.2.1 hA.2.2, List.nil_append] at cs
    rw [if_pos (h1.mpr hA), cs.sinsert, atS_of_cred (fun h => hA.1 h.1), atS_of_empty hA.2.1 hA.2.2]
    exact Prod.ext rfl (by simp)
  · rw [if_neg (mt h1.mp hA)]
    by_cases hB : x = [] ∧ u ≠ [] ∧ p = []
    · have e : atS u p = [0x40] := atS_of_cred (fun h => hB.2.1 h.1)
      rw [e] at cs
      rw [if_pos (h2.mpr hB), cs.serase (n := 1) rfl, e, atS_of_empty hB.1 hB.2.2]
      exact Prod.ext rfl (by simp)
    · have e : atS x p = atS u p := by
        cases x <;> cases u <;> cases p <;> simp_all [atS]
      rw [if_neg (mt h2.mp hB), e, cs.buf]
      exact Prod.ext rfl (by omega)

theorem updateBaseUsername_auth (l : L) (x : Bytes) (ha : l.auth = true) (hna : TailNoAt l) :
    updateBaseUsername (layout l) x = layout { l with user := x } := by
  have c := cut_user l ha
  have cs : Cut (l.scheme ++ authS l.auth ++ (x ++ (passS l.pass ++ (atS l.user l.pass ++ tailS l))))
      (shift (layout l).hs ((x.length : Int) - (l.user.length : Int))) (l.scheme ++ authS l.auth ++ x ++ passS l.pass)
      (atS l.user l.pass ++ tailS l) := ⟨by simp only [List.append_assoc], by layout_arith [shift, ha, authS_true]⟩
  unfold updateBaseUsername
  rw [addAuthoritySlashes_auth l ha]
  simp only [c.replaceAndResize (j := (layout l).ue) (by layout_arith [ha, authS_true]) x, hostAt_layout l hna,
    hasNonEmptyPassword_layout, usernameAt l.user l.pass x _ cs]
  refine mk_behind l rfl rfl rfl rfl ?_ rfl (shift_eq ?_) (shift_eq ?_) (shift_eq ?_) rfl (shift_eq ?h) ?h
  · simp only [layout_buf, tailS, List.append_assoc]
  all_goals layout_arith []

theorem updateBaseUsername_layout (l : L) (x : Bytes) (h : NoAuthNoCred l) (hna : TailNoAt l) :
    updateBaseUsername (layout l) x = layout { l with auth := true, user := x } := by
  have e : updateBaseUsername (layout l) x = updateBaseUsername (layout { l with auth := true }) x := by
    unfold updateBaseUsername
    rw [addAuthoritySlashes_layout l h, addAuthoritySlashes_auth _ rfl]
  rw [e]
  exact updateBaseUsername_auth { l with auth := true } x rfl hna

theorem hasPassword_layout (l : L) : hasPassword (layout l) = !l.pass.isEmpty := by
  unfold hasPassword
  cases hp : l.pass with
  | nil => rw [decide_eq_false (by layout_arith [hp, passS_nil])]; rfl
  | cons c r =>
    have hne := List.cons_ne_nil c r
    rw [decide_eq_true (by layout_arith [hp, passS_head hne]), (cut_ue l).at_, hp, passS_head hne]; rfl

theorem hasNonEmptyUsername_layout (l : L) (ha : l.auth = true) : hasNonEmptyUsername (layout l) = !l.user.isEmpty := by
  unfold hasNonEmptyUsername
  cases hu : l.user with
  | nil => exact decide_eq_false (by layout_arith [ha, hu, authS_true])
  | cons c r => exact decide_eq_true (by layout_arith [ha, hu, authS_true])

/-- `clear_password` removes ":password" and leaves the '@': where a user name needs it anyway (`h' = l.host`), or as a
    stray first byte of the host (`h' = '@' :: l.host`) -/
theorem clearPassword_pass (l : L) (h' : Bytes) (hp : l.pass ≠ []) (hh : atS l.user [] ++ h' = 0x40 :: l.host) :
    clearPassword (layout l) = layout { l with pass := [], host := h' } := by
  have hpe := List.isEmpty_eq_false_iff.mpr hp
  have h1 : atS l.user l.pass = [0x40] := atS_of_cred (fun h => hp h.2)
  have hlen := congrArg List.length hh
  simp only [List.length_append, List.length_cons] at hlen
  unfold clearPassword
  rw [hasPassword_layout, hpe]
  simp only [Bool.not_false, Bool.not_true, Bool.false_eq_true, ↓reduceIte]
  rw [(cut_ue l).serase (M := passS l.pass) (by layout_arith []), h1]
  refine mk_behind l rfl rfl rfl rfl ?_ rfl rfl ?_ ?_ rfl ?_ ?_
  · simp only [layout_buf, passS_nil, tailS, List.append_assoc, List.append_nil]
    rw [← List.append_assoc (atS l.user []), hh]; rfl
  all_goals layout_arith [passS_nil, h1]

theorem clearPassword_user (l : L) (hu : l.user ≠ []) : clearPassword (layout l) = layout { l with pass := [] } := by
  by_cases hp : l.pass = []
  · have : hasPassword (layout l) = false := by rw [hasPassword_layout, hp]; rfl
    simp only [clearPassword, this, Bool.not_false, ↓reduceIte]
    exact congrArg layout (by cases l; cases hp; rfl)
  · exact clearPassword_pass l l.host hp (by rw [atS_of_cred (fun h => hu h.1)]; rfl)

/-- without a user name the '@' is left behind for the moment: the transient state is the layout in
    which the '@' counts as the first byte of the host -/
theorem clearPassword_nouser (l : L) (hu : l.user = []) (hp : l.pass ≠ []) :
    clearPassword (layout l) = layout { l with pass := [], host := 0x40 :: l.host } :=
  clearPassword_pass l _ hp (by rw [hu]; rfl)

/-- ... and `update_base_username("")` then removes it -/
theorem updateBaseUsername_stray (m : L) (h' : Bytes) (ha : m.auth = true) (hu : m.user = []) (hp : m.pass = [])
    (hh : m.host = 0x40 :: h') : updateBaseUsername (layout m) [] = layout { m with host := h' } := by
  have c := cut_user m ha
  have ht : atS m.user m.pass ++ tailS m = [0x40] ++ tailS { m with host := h' } := by
    rw [atS_of_empty hu hp, tailS, hh]; rfl
  have hat : (decide ((layout m).buf.length > (layout m).hs) && at_ (layout m).buf (layout m).hs == 0x40) = true := by
    rw [(cut_hs m).at_, ht, (cut_hs m).buf, ht]
    exact Bool.and_eq_true_iff.mpr ⟨decide_eq_true (by layout_arith []), rfl⟩
  have hpe : m.pass.isEmpty = true := by rw [hp]; rfl
  unfold updateBaseUsername
  rw [addAuthoritySlashes_auth m ha]
  simp only [c.replaceAndResize (j := (layout m).ue) (by layout_arith [ha, authS_true]) [], hat, hasNonEmptyPassword_layout,
    hpe, List.isEmpty_nil, Bool.not_true, Bool.not_false, Bool.and_self, Bool.false_eq_true, ↓reduceIte]
  rw [Cut.serase (n := 1) (M := [0x40]) (A := m.scheme ++ authS m.auth) (B := tailS { m with host := h' })
    ⟨by rw [ht, hp, passS_nil]; rfl, by layout_arith [shift, ha, authS_true, hu, hp, passS_nil]⟩ rfl]
  refine mk_behind m rfl rfl rfl rfl ?_ rfl (shift_eq ?_) (shift_eq ?_) (shift_eq ?_) rfl (shift_eq ?h) ?h
  · simp only [layout_buf, hu, hp, passS_nil, atS_of_empty, tailS, List.append_assoc, List.append_nil]
  all_goals layout_arith [hu, hp, hh, passS_nil, atS_of_empty]

theorem updateBasePassword_empty (l : L) (ha : l.auth = true) (hna : TailNoAt l) :
    updateBasePassword (layout l) [] = layout { l with pass := [] } := by
  unfold updateBasePassword
  rw [addAuthoritySlashes_auth l ha]
  simp only [List.isEmpty_nil, ↓reduceIte]
  by_cases hu : l.user = []
  · have hue : l.user.isEmpty = true := by rw [hu]; rfl
    by_cases hp : l.pass = []
    · have e1 : clearPassword (layout l) = layout l := by
        have : hasPassword (layout l) = false := by rw [hasPassword_layout, hp]; rfl
        simp only [clearPassword, this, Bool.not_false, ↓reduceIte]
      rw [e1, hasNonEmptyUsername_layout l ha]
      simp only [hue, Bool.not_true, Bool.not_false, ↓reduceIte]
      rw [updateBaseUsername_auth l [] ha hna]
      exact congrArg layout (by cases l; cases hu; cases hp; rfl)
    · rw [clearPassword_nouser l hu hp, hasNonEmptyUsername_layout { l with pass := [], host := 0x40 :: l.host } ha]
      simp only [hue, Bool.not_true, Bool.not_false, ↓reduceIte]
      exact updateBaseUsername_stray { l with pass := [], host := 0x40 :: l.host } l.host ha hu rfl rfl
  · have hue := List.isEmpty_eq_false_iff.mpr hu
    rw [clearPassword_user l hu, hasNonEmptyUsername_layout { l with pass := [] } ha]
    simp only [hue, Bool.not_false, Bool.not_true, Bool.false_eq_true, ↓reduceIte]

theorem atS_or (u p : Bytes) : atS u p = [] ∨ atS u p = [0x40] := by
  unfold atS; split
  · exact Or.inl rfl
  · exact Or.inr rfl
theorem atS_len_le (u p : Bytes) : (atS u p).length ≤ 1 := by
  rcases atS_or u p with e | e <;> rw [e] <;> decide

/-- the '@' in front of the host is written unless it is there: common last step of the password editors -/
theorem ensureAt {δ : Type} {b A t T : Bytes} {i : Nat} (c : Cut b i A (t ++ T)) (ht : t = [] ∨ t = [0x40])
    (hT : T.headD 0 ≠ 0x40) (d1 d2 : δ) :
    (if (at_ b i != 0x40) = true then (sinsert b i [0x40], d1) else (b, d2)) =
      (A ++ ([0x40] ++ T), if t.length = 0 then d1 else d2) := by
  rw [c.at_]
  rcases ht with rfl | rfl
  · rw [if_pos (by simpa using hT), c.sinsert]; rfl
  · rw [if_neg (by simp), c.buf]; rfl

theorem ensureAt_and {δ : Type} {b A t T : Bytes} {i : Nat} (c : Cut b i A (t ++ T)) (ht : t = [] ∨ t = [0x40])
    (hT : T.headD 0 ≠ 0x40) (k : Bool) (hk : t = [] → k = true) (d1 d2 : δ) :
    (if (at_ b i != 0x40 && k) = true then (sinsert b i [0x40], d1) else (b, d2)) =
      (A ++ ([0x40] ++ T), if t.length = 0 then d1 else d2) := by
  rw [← ensureAt c ht hT d1 d2]
  rcases ht with e | e
  · rw [hk e, Bool.and_true]
  · subst e; rw [c.at_]; rfl

theorem colonPassAt {δ : Type} {b A t T : Bytes} {i j : Nat} (c : Cut b i A (t ++ T)) (x : Bytes) (hj : j = i + 1 + x.length)
    (ht : t = [] ∨ t = [0x40]) (hT : T.headD 0 ≠ 0x40) (d1 d2 : δ) :
    (if (at_ (sinsert (sinsert b i [0x3A]) (i + 1) x) j != 0x40) = true then
        (sinsert (sinsert (sinsert b i [0x3A]) (i + 1) x) j [0x40], d1)
      else (sinsert (sinsert b i [0x3A]) (i + 1) x, d2)) =
      (A ++ [0x3A] ++ x ++ ([0x40] ++ T), if t.length = 0 then d1 else d2) := by
  have c1 := Cut.after (B := t ++ T) c.idx [0x3A] (j := i + 1) rfl
  rw [c.sinsert, c1.sinsert]
  exact ensureAt (Cut.after c1.idx x hj) ht hT d1 d2

theorem updateBasePassword_auth (l : L) (x : Bytes) (hx : x ≠ []) (ha : l.auth = true) (hna : TailNoAt l) :
    updateBasePassword (layout l) x = layout { l with pass := x } := by
  have hxe := List.isEmpty_eq_false_iff.mpr hx
  have h2 : atS l.user x = [0x40] := atS_of_cred (fun h => hx h.2)
  have hpx := passS_head hx
  unfold updateBasePassword
  rw [addAuthoritySlashes_auth l ha]
  simp only [hxe, Bool.false_eq_true, ↓reduceIte, hasPassword_layout]
  by_cases hp : l.pass = []
  · -- no password yet: ':' and the password are inserted; the '@' is missing iff there is no user either
    have hpe : l.pass.isEmpty = true := by rw [hp]; rfl
    have hle := atS_len_le l.user []
    simp only [hpe, Bool.not_true, Bool.false_eq_true, ↓reduceIte, colonPassAt (cut_ue_nopass l hp) x
      (j := shift (layout l).hs ((x.length : Int) + 1)) (by layout_arith [shift, hp, passS_nil]) (atS_or _ _) hna]
    refine mk_behind l rfl rfl rfl rfl ?_ rfl rfl (shift_eq ?_) (shift_eq ?_) rfl (shift_eq ?h) ?h
    · simp only [layout_buf, hpx, h2, tailS, List.append_assoc, List.cons_append, List.nil_append]
    all_goals layout_arith [hp, passS_nil, hpx, h2]
  · -- a password exists: it is erased and the new one inserted; the '@' is there already
    have hpp := passS_head hp
    have h1 : atS l.user l.pass = [0x40] := atS_of_cred (fun h => hp h.2)
    have c1 : Cut (layout l).buf ((layout l).ue + 1) (l.scheme ++ authS l.auth ++ l.user ++ [0x3A]) (l.pass ++ ([0x40] ++ tailS l)) :=
      Cut.next (M := [0x3A]) (by have := cut_ue l; rwa [hpp, h1] at this) rfl
    have c2 := Cut.after (B := [0x40] ++ tailS l) c1.idx x
      (j := shift (layout l).hs ((x.length : Int) - (((layout l).hs - (layout l).ue - 1 : Nat) : Int))) (by layout_arith [shift, hpp])
    have hpe := List.isEmpty_eq_false_iff.mpr hp
    simp only [hpe, Bool.not_false, ↓reduceIte, c1.serase (n := (layout l).hs - (layout l).ue - 1) (by layout_arith [hpp]),
      (Cut.mk rfl c1.idx).sinsert, ensureAt c2 (Or.inr rfl) hna]
    refine mk_behind l rfl rfl rfl rfl ?_ rfl rfl (shift_eq ?_) (shift_eq ?_) rfl (shift_eq ?h) ?h
    · simp only [layout_buf, hpx, h2, tailS, List.append_assoc, List.cons_append, List.nil_append]
    all_goals layout_arith [hpp, hpx, h1, h2]

theorem updateBasePassword_layout (l : L) (x : Bytes) (h : NoAuthNoCred l) (hna : TailNoAt l) :
    updateBasePassword (layout l) x = layout { l with auth := true, pass := x } := by
  have e : updateBasePassword (layout l) x = updateBasePassword (layout { l with auth := true }) x := by
    unfold updateBasePassword
    rw [addAuthoritySlashes_layout l h, addAuthoritySlashes_auth { l with auth := true } rfl]
  rw [e]
  by_cases hx : x = []
  · subst hx; exact updateBasePassword_empty { l with auth := true } rfl hna
  · exact updateBasePassword_auth { l with auth := true } x hx rfl hna

/-- the "/." guard is present only on a host-less, non-opaque URL, which then has no port -/
def DashDotOk (l : L) : Prop := l.dashdot = true → l.auth = false ∧ l.opq = false ∧ l.port = none

theorem dashDotBytes_layout (l : L) (h : l.dashdot = true → l.port = none) :
    ((layout l).ps == (layout l).he + 2 && at_ (layout l).buf (layout l).he == 0x2F &&
      at_ (layout l).buf ((layout l).he + 1) == 0x2E) = l.dashdot := by
  cases hd : l.dashdot
  · cases hp : l.port with
    | none =>
      have : ((layout l).ps == (layout l).he + 2) = false := beq_false_of_ne (by layout_arith [hd, hp, portS, ddS_false])
      rw [this]; rfl
    | some pd =>
      have : (at_ (layout l).buf (layout l).he == 0x2F) = false := by rw [(cut_he l).at_, hp]; rfl
      rw [this, Bool.and_false, Bool.false_and]
  · have hp := h hd
    have h0 : (layout l).ps = (layout l).he + 2 := by layout_arith [hd, hp, portS, ddS_true]
    have h1 : at_ (layout l).buf (layout l).he = 0x2F := by rw [(cut_he l).at_, hp, hd]; rfl
    have h2 : at_ (layout l).buf ((layout l).he + 1) = 0x2E := by
      rw [(cut_he l).at_add, hp, hd]; simp only [portS, ddS_true, List.nil_append, List.cons_append, at_cons_succ, at_cons_zero]
    rw [h0, h1, h2]; simp only [beq_self_eq_true, Bool.and_self]

theorem hasDashDot_eq (l : L) (h : l.dashdot = true → l.port = none) : hasDashDot (layout l) = (l.dashdot && !l.opq) := by
  have swap (a o b c : Bool) : (a && !o && b && c) = (a && b && c && !o) := by cases a <;> cases o <;> cases b <;> cases c <;> rfl
  unfold hasDashDot
  rw [swap, dashDotBytes_layout l h]; rfl

theorem hasDashDot_layout (l : L) (h : DashDotOk l) : hasDashDot (layout l) = l.dashdot := by
  rw [hasDashDot_eq l (fun hd => (h hd).2.2)]
  cases hd : l.dashdot
  · rfl
  · rw [(h hd).2.1]; rfl

theorem pathnameLength_layout (l : L) : pathnameLength (layout l) = l.path.length := by
  unfold pathnameLength
  rw [layout_ss, layout_hh]
  cases hq : l.query with
  | some q => simp only [Option.isSome_some, ↓reduceIte, Nat.add_sub_cancel_left]
  | none =>
    cases hf : l.frag with
    | some f => simp only [Option.isSome_some, Option.isSome_none, Bool.false_eq_true, ↓reduceIte, queryS, List.length_nil, Nat.add_zero,
        Nat.add_sub_cancel_left]
    | none =>
      -- neither query nor fragment: the path runs to the end of the buffer
      simp only [Option.isSome_none, Bool.false_eq_true, ↓reduceIte]
      rw [(cut_ss l).buf, hq, hf, List.length_append, ← (cut_ss l).idx]
      exact Nat.add_sub_cancel_left (layout l).ps l.path.length

theorem deleteDashDot_layout (l : L) (hd : l.dashdot = true) (hp : l.port = none) :
    deleteDashDot (layout l) = layout { l with dashdot := false } := by
  have c := cut_he l
  rw [hp, hd] at c
  unfold deleteDashDot
  rw [c.serase (M := [0x2F, 0x2E]) (n := 2) rfl]
  refine mk_behind l rfl rfl rfl rfl ?_ rfl rfl rfl rfl rfl ?_ ?_
  · simp only [layout_buf, hp, portS, ddS_false, List.append_assoc, List.append_nil]
  all_goals layout_arith [hd, ddS_true, ddS_false]

/-- the last step of `update_base_pathname`: the path region is replaced -/
theorem replacePath_layout (l : L) (x : Bytes) : replacePath (layout l) x = layout { l with path := x } := by
  unfold replacePath
  rw [pathnameLength_layout, (cut_ps l).replaceAndResize rfl x]
  refine mk_ext ?_ rfl rfl rfl rfl rfl rfl (ss_shift l _ _ rfl ?_) (hh_shift l _ _ rfl ?_) rfl
  · simp only [layout_buf, headS, List.append_assoc]
  all_goals layout_arith []

theorem insertDashDot_layout (l : L) (hl : l.dashdot = false) : insertDashDot (layout l) = layout { l with dashdot := true } := by
  unfold insertDashDot
  rw [(cut_ps l).sinsert]
  refine mk_behind l rfl rfl rfl rfl ?_ rfl rfl rfl rfl rfl ?_ ?_
  · simp only [layout_buf, headS, hl, ddS_true, ddS_false, List.append_assoc, List.append_nil]
  all_goals layout_arith [hl, ddS_true, ddS_false]

/-- the "/." guard after `update_base_pathname(x)`: only a path that starts with "//" can have one; it is kept if there was
    one, and written if the URL is not opaque and has no "//" of its own -/
def newDashDot (l : L) (x : Bytes) : Bool :=
  if startsWithSlashSlash x then (l.dashdot || (!l.opq && !l.auth)) else false

theorem updateBasePathname_layout (l : L) (x : Bytes) (h : NoAuthNoCred l) (hd : DashDotOk l) :
    updateBasePathname (layout l) x = layout { l with dashdot := newDashDot l x, path := x } := by
  unfold updateBasePathname
  cases hdd : startsWithSlashSlash x
  · -- the new path does not start with "//": an existing "/." goes
    simp only [Bool.not_false, Bool.true_and, Bool.false_and, Bool.false_eq_true, ↓reduceIte, hasDashDot_layout l hd]
    cases hl : l.dashdot
    · simp only [Bool.false_eq_true, ↓reduceIte]
      rw [replacePath_layout]
      simp [newDashDot, hdd, hl]
    · obtain ⟨_, _, hp⟩ := hd hl
      simp only [↓reduceIte]
      rw [deleteDashDot_layout l hl hp, replacePath_layout]
      simp [newDashDot, hdd]
  · have hopq : (layout l).opq = l.opq := rfl
    simp only [Bool.not_true, Bool.false_and, Bool.false_eq_true, ↓reduceIte, Bool.true_and,
      hasDashDot_layout l hd, hasAuthority_layout l h, hopq]
    cases hl : l.dashdot
    · cases ho : l.opq <;> cases ha : l.auth <;>
        simp only [Bool.not_false, Bool.not_true, Bool.and_true, Bool.and_false, Bool.true_and, Bool.false_and,
          Bool.false_eq_true, ↓reduceIte]
      · rw [insertDashDot_layout l hl, replacePath_layout]
        simp [newDashDot, hdd, hl, ho, ha]
      all_goals
        rw [replacePath_layout]
        simp [newDashDot, hdd, hl, ho, ha]
    · simp only [Bool.not_true, Bool.and_false, Bool.false_eq_true, ↓reduceIte]
      rw [replacePath_layout]
      simp [newDashDot, hdd, hl]

theorem clearHostname_layout (l : L) (h : NoAuthNoCred l) (hna : TailNoAt l) :
    clearHostname (layout l) = layout { l with host := [] } ∨ l.auth = false := by
  by_cases ha : l.auth = false
  · exact Or.inr ha
  · left
    have hA : hasAuthority (layout l) = true := by rw [hasAuthority_layout l h]; exact Bool.of_not_eq_false ha
    -- the erased region starts behind the '@' when there is one: in both cases it is exactly the host
    have hreg : (if (decide ((layout l).he - (layout l).hs > 0) && (atS l.user l.pass ++ tailS l).headD 0 == 0x40) = true
          then ((layout l).hs + 1, (layout l).he - (layout l).hs - 1) else ((layout l).hs, (layout l).he - (layout l).hs)) =
        ((layout l).hs + (atS l.user l.pass).length, l.host.length) := by
      by_cases hc : l.user = [] ∧ l.pass = []
      · have h0 := atS_of_empty hc.1 hc.2
        have hT : ((tailS l).headD 0 == 0x40) = false := beq_false_of_ne hna
        rw [h0, List.nil_append, hT, Bool.and_false, if_neg Bool.false_ne_true]
        exact Prod.ext rfl (by layout_arith [h0])
      · have h1 := atS_of_cred hc
        rw [h1, decide_eq_true (by layout_arith [h1] : (layout l).he - (layout l).hs > 0)]
        simp only [List.cons_append, List.headD_cons, beq_self_eq_true, Bool.and_self, ↓reduceIte]
        exact Prod.ext rfl (by layout_arith [h1])
    unfold clearHostname
    rw [hA, (cut_hs l).at_]
    simp only [Bool.not_true, Bool.false_eq_true, ↓reduceIte, hreg, (cut_host l).serase (M := l.host) rfl]
    refine mk_behind l rfl rfl rfl rfl ?_ rfl rfl rfl ?_ rfl ?_ ?_
    · simp only [layout_buf, List.append_assoc, List.append_nil]
    all_goals layout_arith []

theorem setSchemeWithColon_layout (l : L) (s : Bytes) (hs : l.scheme ≠ []) :
    setSchemeWithColon (layout l) s = layout { l with scheme := s } := by
  have hne : (layout l).buf.isEmpty = false := by
    rw [(cut_pe l).buf]; cases h : l.scheme with
    | nil => exact absurd h hs
    | cons a t => rfl
  have c : Cut (layout l).buf 0 [] (l.scheme ++ (authS l.auth ++ (l.user ++ (passS l.pass ++ (atS l.user l.pass ++ tailS l))))) :=
    ⟨(cut_pe l).buf, rfl⟩
  unfold setSchemeWithColon
  simp only [hne, Bool.false_eq_true, ↓reduceIte, c.serase (n := (layout l).pe) rfl, sinsert_zero, List.nil_append]
  refine mk_behind l rfl rfl rfl rfl ?_ (shift_eq ?_) (shift_eq ?_) (shift_eq ?_) (shift_eq ?_) rfl (shift_eq ?h) ?h
  · simp only [layout_buf, tailS, List.append_assoc]
  all_goals layout_arith []

theorem setScheme_eq (a : Agg) (s : Bytes) : setScheme a s = setSchemeWithColon a (s ++ [0x3A]) := by
  have hd : (s.length : Int) - (a.pe : Int) + 1 = ((s ++ [0x3A]).length : Int) - (a.pe : Int) := by
    simp only [List.length_append, List.length_cons, List.length_nil]; omega
  unfold setScheme setSchemeWithColon
  simp only [hd]
  refine mk_ext rfl ?_ rfl rfl rfl rfl rfl rfl rfl rfl
  simp only [shift, List.length_append, List.length_cons, List.length_nil]; omega

theorem setScheme_layout (l : L) (s : Bytes) (hs : l.scheme ≠ []) :
    setScheme (layout l) s = layout { l with scheme := s ++ [0x3A] } := by
  rw [setScheme_eq, setSchemeWithColon_layout l _ hs]

theorem appendBasePathname_layout (l : L) (x : Bytes) : appendBasePathname (layout l) x = layout { l with path := l.path ++ x } := by
  have c := cut_ss l
  have e : appendBasePathname (layout l) x =
      { layout l with buf := sinsert (layout l).buf ((layout l).ps + l.path.length) x, ss := shiftO (layout l).ss x.length,
                      hh := shiftO (layout l).hh x.length } := by
    unfold appendBasePathname
    cases hq : l.query <;> cases hf : l.frag <;>
      simp only [layout_ss, layout_hh, hq, hf, Option.isSome_some, Option.isSome_none, ↓reduceIte, Bool.false_eq_true, queryS,
        List.length_nil, Nat.add_zero]
    rw [c.buf, hq, hf]; simp only [queryS, fragS, List.append_nil, ← c.idx]
  rw [e, c.sinsert]
  refine mk_ext ?_ rfl rfl rfl rfl rfl rfl (ss_shift l _ _ rfl ?_) (hh_shift l _ _ rfl ?_) rfl
  · simp only [layout_buf, headS, List.append_assoc]
  all_goals layout_arith []

theorem appendBasePassword_auth (l : L) (x : Bytes) (hx : x ≠ []) (ha : l.auth = true) (hna : TailNoAt l) :
    appendBasePassword (layout l) x = layout { l with pass := l.pass ++ x } := by
  have hxe := List.isEmpty_eq_false_iff.mpr hx
  have hne : l.pass ++ x ≠ [] := by cases l.pass <;> simp_all
  have h2 : atS l.user (l.pass ++ x) = [0x40] := atS_of_cred (fun h => hne h.2)
  have hpx := passS_head hne
  have hle := atS_len_le l.user l.pass
  unfold appendBasePassword
  rw [addAuthoritySlashes_auth l ha]
  simp only [hxe, Bool.false_eq_true, ↓reduceIte, hasPassword_layout]
  by_cases hp : l.pass = []
  · have hpe : l.pass.isEmpty = true := by rw [hp]; rfl
    rw [hp] at hle
    rw [hp, List.nil_append] at h2 hpx
    have hd : (if (atS l.user []).length = 0 then x.length + 1 + 1 else x.length + 1) = x.length + 2 - (atS l.user []).length := by
      split <;> omega
    simp only [hpe, Bool.not_true, Bool.false_eq_true, ↓reduceIte, colonPassAt (cut_ue_nopass l hp) x
      (j := (layout l).hs + (x.length + 1)) (by layout_arith [hp, passS_nil]) (atS_or _ _) hna]
    refine mk_behind l rfl rfl rfl rfl ?_ rfl rfl ?_ ?_ rfl ?_ ?_
    · simp only [layout_buf, hp, hpx, h2, tailS, List.append_assoc, List.cons_append, List.nil_append]
    all_goals layout_arith [hp, passS_nil, hpx, h2, List.nil_append]
  · have hpp := passS_head hp
    have c2 := Cut.after (B := atS l.user l.pass ++ tailS l) (cut_hs l).idx x (j := (layout l).hs + x.length) rfl
    have hpe := List.isEmpty_eq_false_iff.mpr hp
    have h1 : atS l.user l.pass = [0x40] := atS_of_cred (fun h => hp h.2)
    have hd : (if (atS l.user l.pass).length = 0 then x.length + 1 else x.length) = x.length := by rw [h1]; rfl
    simp only [hpe, Bool.not_false, ↓reduceIte, (cut_hs l).sinsert, ensureAt c2 (atS_or _ _) hna, hd]
    refine mk_behind l rfl rfl rfl rfl ?_ rfl rfl ?_ ?_ rfl ?_ ?_
    · simp only [layout_buf, hpx, hpp, h2, tailS, List.append_assoc, List.cons_append, List.nil_append]
    all_goals layout_arith [hpp, hpx, h2, h1]

/-- `append_base_username` (non-empty input) on a URL that has its "//".  The comparison `host_start != host_end` in the
    source uses the updated start and the old end: that is the hypothesis `hq`, needed only while there are no credentials
    yet (afterwards the '@' is in place and the comparison is not reached) -/
theorem appendBaseUsername_auth' (l : L) (x : Bytes) (hx : x ≠ []) (ha : l.auth = true) (hna : TailNoAt l)
    (hq : l.user = [] ∧ l.pass = [] → x.length ≠ l.host.length) :
    appendBaseUsername (layout l) x = layout { l with user := l.user ++ x } := by
  have hxe := List.isEmpty_eq_false_iff.mpr hx
  have hne : l.user ++ x ≠ [] := by cases l.user <;> simp_all
  have h2 : atS (l.user ++ x) l.pass = [0x40] := atS_of_cred (fun h => hne h.1)
  have hle := atS_len_le l.user l.pass
  have c2 := (Cut.after (B := passS l.pass ++ (atS l.user l.pass ++ tailS l)) (cut_ue l).idx x rfl).next
    (j := (layout l).hs + x.length) (by layout_arith [])
  have hk : atS l.user l.pass = [] → ((layout l).hs + x.length != (layout l).he) = true := by
    intro e
    have hc : l.user = [] ∧ l.pass = [] := Decidable.not_not.mp (fun h => by rw [atS_of_cred h] at e; cases e)
    have := hq hc
    exact bne_iff_ne.mpr (by layout_arith [e])
  have hd : (if (atS l.user l.pass).length = 0 then x.length + 1 else x.length) = x.length + 1 - (atS l.user l.pass).length := by
    split <;> omega
  unfold appendBaseUsername
  rw [addAuthoritySlashes_auth l ha]
  simp only [hxe, Bool.false_eq_true, ↓reduceIte, (cut_ue l).sinsert, ensureAt_and c2 (atS_or _ _) hna _ hk]
  refine mk_behind l rfl rfl rfl rfl ?_ rfl ?_ ?_ ?_ rfl ?_ ?_
  · simp only [layout_buf, h2, tailS, List.append_assoc]
  all_goals layout_arith [h2]

end AdaVerif.Lemmas.AggL
