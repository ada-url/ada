import AdaVerif.Lemmas.RecInv
/-
Where the records returned by `Spec.parseCore` come from (`Parsed`: one constructor per state of the Standard's
machine that finishes a record), and the first use of it: `Spec.parse` establishes the record invariants
for every input and every base that satisfies them.
-/
namespace AdaVerif.Lemmas
open AdaVerif AdaVerif.Spec

theorem pathStartState_special (scheme : Bytes) (t : Bytes) (h : isSpecialScheme scheme = true) :
    ∃ t', pathStartState scheme t = pathState scheme [] t' := by
  unfold pathStartState
  simp only [h, ↓reduceIte]
  split
  · split <;> exact ⟨_, rfl⟩
  · exact ⟨_, rfl⟩

theorem pathStartState_special_ne_nil (scheme : Bytes) (t : Bytes) (h : isSpecialScheme scheme = true) :
    pathStartState scheme t ≠ [] := by
  obtain ⟨t', e⟩ := pathStartState_special scheme t h
  rw [e]; exact pathState_ne_nil _ _ _

theorem schemeOk_file : schemeOk bFile = true := by decide

theorem baseIsFile_spec (base : Option Url) (b : Url) (h : baseIsFile base = some b) :
    base = some b ∧ b.scheme = bFile := by
  unfold baseIsFile at h
  split at h
  · split at h
    · rename_i hb; injection h with h; subst h; exact ⟨rfl, by simpa using hb⟩
    · cases h
  · cases h

theorem takeScheme_split (s name rest : Bytes) (h : takeScheme s = some (name, rest)) : ∃ p, s = p ++ 0x3A :: rest := by
  unfold takeScheme at h
  split at h
  · cases h
  · rename_i c t
    split at h
    · cases h
    · simp only at h
      split at h
      · rename_i r heq
        injection h with h; injection h with _ h2
        subst h2
        exact ⟨_, heq ▸ (List.take_append_drop ((c :: t).takeWhile isSchemeChar).length (c :: t)).symm⟩
      · cases h

/-- The records `parseCore idna base pre _ _ _` can return, by the state that finishes them; `followed` says that a
    query or fragment follows `pre`.  The file states build every path as a `pathState bFile P0 t`,
    except `fileKeep`, which keeps the base's. -/
inductive Parsed (idna : Idna) (base : Option Url) (pre : Bytes) (followed : Bool) : Url → Prop
  /-- authority state; the scheme was read from the input or is the base's -/
  | authority {scheme auth rest : Bytes} {a : Authority}
      (hs : schemeOk scheme = true ∨ ∃ b, base = some b ∧ b.scheme = scheme) (hnf : scheme ≠ bFile)
      (ha : parseAuthority idna scheme auth = some a) :
      Parsed idna base pre followed
        { scheme, username := a.username, password := a.password, host := some a.host, port := a.port,
          path := pathStartState scheme rest }
  /-- file host state, and the file states without a file base -/
  | fileHost {h : Host} {t : Bytes}
      (hh : h = .empty ∨ ∃ buf, buf ≠ [] ∧ hostParse idna buf false = some h ∧ h ≠ .domain bLocalhost) :
      Parsed idna base pre followed { scheme := bFile, host := some h, path := pathState bFile [] t }
  /-- file and file slash states with a file base: its host, and nothing, its drive letter or its shortened path -/
  | fileBase {b : Url} {P0 : List Bytes} {t : Bytes} (hb : base = some b) (hf : b.scheme = bFile)
      (hP : P0 = [] ∨ P0 = shortenPath bFile b.path ∨
        ∃ p, b.path.head? = some p ∧ isNormalizedWindowsDriveLetter p = true ∧ P0 = [p]) :
      Parsed idna base pre followed { scheme := bFile, host := b.host, path := pathState bFile P0 t }
  | fileKeep {b : Url} {q : Option Bytes} (hb : base = some b) (hf : b.scheme = bFile) (hq : q = none ∨ q = b.query) :
      Parsed idna base pre followed { scheme := bFile, host := b.host, path := b.path, query := q }
  /-- relative and relative slash states -/
  | relative {b : Url} {P0 : List Bytes} {t : Bytes} (hb : base = some b) (ho : b.isOpaque = false) (hnf : b.scheme ≠ bFile)
      (hP : P0 = [] ∨ P0 = shortenPath b.scheme b.path) :
      Parsed idna base pre followed
        { scheme := b.scheme, username := b.username, password := b.password, host := b.host, port := b.port,
          path := pathState b.scheme P0 t }
  | relativeKeep {b : Url} (hb : base = some b) (ho : b.isOpaque = false) (hnf : b.scheme ≠ bFile) :
      Parsed idna base pre followed
        { scheme := b.scheme, username := b.username, password := b.password, host := b.host, port := b.port,
          path := b.path, query := b.query }
  /-- path-or-authority state of a non-special scheme, one slash -/
  | pathOnly {scheme t : Bytes} (hs : schemeOk scheme = true) (hns : isSpecialScheme scheme = false) :
      Parsed idna base pre followed { scheme, path := pathState scheme [] t }
  /-- opaque path state on the rest of `pre` -/
  | opaquePath {scheme p rest : Bytes} (hs : schemeOk scheme = true) (hns : isSpecialScheme scheme = false)
      (hp : pre = p ++ rest) (hhd : rest.head? ≠ some 0x2F) :
      Parsed idna base pre followed { scheme, isOpaque := true, opath := opaquePathState rest followed }
  /-- a fragment alone against an opaque base -/
  | opaqueKeep {b : Url} (hb : base = some b) (ho : b.isOpaque = true) :
      Parsed idna base pre followed { scheme := b.scheme, isOpaque := true, opath := b.opath, query := b.query }

variable {idna : Idna} {base : Option Url} {pre : Bytes} {followed : Bool}

theorem fromAuthority_parsed {scheme text : Bytes} {u : Url}
    (hs : schemeOk scheme = true ∨ ∃ b, base = some b ∧ b.scheme = scheme) (hnf : scheme ≠ bFile)
    (h : fromAuthority idna scheme text = some u) : Parsed idna base pre followed u := by
  unfold fromAuthority at h
  simp only at h
  split at h; · cases h
  rename_i a ha
  injection h with h; subst h
  exact .authority hs hnf ha

theorem fileHost_parsed {text : Bytes} {u : Url} (h : fileHost idna text = some u) :
    Parsed idna base pre followed u := by
  have start := fun t => pathStartState_special bFile t special_file
  unfold fileHost at h
  simp only at h
  split at h
  · injection h with h; subst h
    exact .fileHost (Or.inl rfl)
  · obtain ⟨t', e⟩ := start (text.drop (authorityEnd true text))
    rw [e] at h
    split at h
    · injection h with h; subst h
      exact .fileHost (Or.inl rfl)
    · rename_i hne
      split at h; · cases h
      rename_i h' hp
      injection h with h; subst h
      split
      · exact .fileHost (Or.inl rfl)
      · rename_i hloc
        exact .fileHost (Or.inr ⟨_, ne_nil_of_not_isEmpty hne, hp, by simpa using hloc⟩)

theorem fileSlashElse_parsed {text : Bytes} {u : Url} (h : fileSlash.fileSlashElse base text = some u) :
    Parsed idna base pre followed u := by
  unfold fileSlash.fileSlashElse at h
  split at h
  · rename_i b hbf
    obtain ⟨h1, h2⟩ := baseIsFile_spec base b hbf
    injection h with h; subst h
    refine .fileBase h1 h2 ?_
    split
    · split
      · rename_i p _ hpath
        split
        · rename_i hn
          exact Or.inr (Or.inr ⟨p, by rw [hpath]; rfl, hn, rfl⟩)
        · exact Or.inl rfl
      · exact Or.inl rfl
    · exact Or.inl rfl
  · injection h with h; subst h
    exact .fileHost (Or.inl rfl)

theorem fileElse_parsed {pre' tail : Bytes} {hasQ hasF : Bool} {u : Url}
    (h : fileState.fileElse base pre' tail hasQ hasF = some u) : Parsed idna base pre followed u := by
  unfold fileState.fileElse at h
  split at h
  · rename_i b hbf
    obtain ⟨h1, h2⟩ := baseIsFile_spec base b hbf
    split at h
    · injection h with h; subst h
      refine .fileKeep h1 h2 ?_
      split
      · exact Or.inl rfl
      · split <;> exact Or.inr rfl
    · injection h with h; subst h
      refine .fileBase h1 h2 ?_
      split
      · exact Or.inr (Or.inl rfl)
      · exact Or.inl rfl
  · injection h with h; subst h
    exact .fileHost (Or.inl rfl)

theorem fileState_parsed {pre' tail : Bytes} {hasQ hasF : Bool} {u : Url}
    (h : fileState idna base pre' tail hasQ hasF = some u) : Parsed idna base pre followed u := by
  unfold fileState at h
  split at h
  · split at h
    · unfold fileSlash at h
      split at h
      · split at h
        · exact fileHost_parsed h
        · exact fileSlashElse_parsed h
      · exact fileSlashElse_parsed h
    · exact fileElse_parsed h
  · exact fileElse_parsed h

theorem relativeState_parsed {b : Url} {pre' : Bytes} {u : Url} (hb : base = some b) (ho : b.isOpaque = false)
    (hnf : b.scheme ≠ bFile) (h : relativeState idna b pre' = some u) : Parsed idna base pre followed u := by
  have auth := fun text (h : fromAuthority idna b.scheme text = some u) =>
    fromAuthority_parsed (pre := pre) (followed := followed) (Or.inr ⟨b, hb, rfl⟩) hnf h
  unfold relativeState at h
  simp only at h
  split at h
  · split at h
    · split at h
      · split at h
        · exact auth _ h
        · split at h
          · exact auth _ h
          · injection h with h; subst h
            exact .relative hb ho hnf (Or.inl rfl)
      · injection h with h; subst h
        exact .relative hb ho hnf (Or.inl rfl)
    · injection h with h; subst h
      exact .relative hb ho hnf (Or.inr rfl)
  · injection h with h; subst h
    exact .relativeKeep hb ho hnf

theorem parseCore_parsed {tail : Bytes} {hasQ hasF : Bool} {u : Url}
    (h : parseCore idna base pre tail hasQ hasF = some u) : Parsed idna base pre (hasQ || hasF) u := by
  unfold parseCore at h
  split at h
  · rename_i scheme rest hts
    have hso := takeScheme_ok _ _ _ hts
    have auth := fun text (h : fromAuthority idna scheme text = some u) (hnf : scheme ≠ bFile) =>
      fromAuthority_parsed (base := base) (pre := pre) (followed := hasQ || hasF) (Or.inl hso) hnf h
    simp only at h
    split at h
    · exact fileState_parsed h
    · rename_i hnf
      have hnf' : scheme ≠ bFile := by simpa using hnf
      split at h
      · split at h
        · rename_i b
          split at h
          · rename_i hsame
            have hsame' : b.scheme = scheme := by simpa using hsame
            split at h
            · exact auth _ h hnf'
            · split at h
              · cases h
              · rename_i hno
                exact relativeState_parsed rfl (by simpa using hno) (by rw [hsame']; exact hnf') h
          · exact auth _ h hnf'
        · exact auth _ h hnf'
      · rename_i hns
        have hns' : isSpecialScheme scheme = false := by simpa using hns
        split at h
        · exact auth _ h hnf'
        · injection h with h; subst h
          exact .pathOnly hso hns'
        · rename_i hn1 hn2
          injection h with h; subst h
          obtain ⟨p, hp⟩ := takeScheme_split _ _ _ hts
          refine .opaquePath (p := p ++ [0x3A]) hso hns' (by simp [hp]) (fun e => ?_)
          cases rest with
          | nil => simp at e
          | cons c t =>
            have : c = 0x2F := by simpa using e
            subst this
            exact hn2 t rfl
  · split at h
    · cases h
    · rename_i b
      split at h
      · rename_i hop
        split at h
        · injection h with h; subst h
          exact .opaqueKeep rfl hop
        · cases h
      · rename_i hno
        split at h
        · rename_i hnf
          exact relativeState_parsed rfl (by simpa using hno) (by simpa using hnf) h
        · exact fileState_parsed h

theorem parsePort_ok (scheme s : Bytes) (p : Option Nat) (h : parsePort scheme s = some p) : portOk scheme p := by
  unfold parsePort at h
  split at h; · cases h
  split at h
  · injection h with h; subst h; trivial
  · simp only at h
    split at h; · cases h
    split at h
    · injection h with h; subst h; trivial
    · injection h with h; subst h
      rename_i h1 h2
      exact ⟨by omega, by simpa using h2⟩

/-- What the host and port states guarantee, for any property `H` of hosts that holds of every host parsed from a
    non-empty text and of the empty host. -/
theorem parseHostPort_ok (idna : Idna) (scheme hp : Bytes) (h : Host) (p : Option Nat) (H : Host → Prop)
    (hH : ∀ s h, s ≠ [] → hostParse idna s (!isSpecialScheme scheme) = some h → H h ∧ h ≠ .empty) (hE : H .empty)
    (hh : parseHostPort idna scheme hp = some (h, p)) :
    H h ∧ (isSpecialScheme scheme = true → h ≠ .empty) ∧ (h = .empty → hp = [] ∧ p = none) ∧ portOk scheme p := by
  unfold parseHostPort at hh
  simp only at hh
  split at hh
  · split at hh; · cases hh
    rename_i hne
    split at hh; · cases hh
    rename_i h' hp'
    split at hh; · cases hh
    rename_i port hport
    injection hh with hh; injection hh with h1 h2; subst h1; subst h2
    have ⟨hwf, hnE⟩ := hH _ h' (ne_nil_of_not_isEmpty hne) hp'
    exact ⟨hwf, fun _ => hnE, fun he => absurd he hnE, parsePort_ok _ _ _ hport⟩
  · split at hh
    · split at hh; · cases hh
      rename_i hemp hsp
      injection hh with hh; injection hh with h1 h2; subst h1; subst h2
      refine ⟨hE, fun hs => absurd hs hsp, fun _ => ⟨by simpa using hemp, rfl⟩, trivial⟩
    · rename_i hne
      split at hh; · cases hh
      rename_i h' hp'
      injection hh with hh; injection hh with h1 h2; subst h1; subst h2
      have ⟨hwf, hnE⟩ := hH _ h' (ne_nil_of_not_isEmpty hne) hp'
      exact ⟨hwf, fun _ => hnE, fun he => absurd he hnE, trivial⟩

theorem parseAuthority_ok (idna : Idna) (scheme auth : Bytes) (a : Authority) (H : Host → Prop)
    (hH : ∀ s h, s ≠ [] → hostParse idna s (!isSpecialScheme scheme) = some h → H h ∧ h ≠ .empty) (hE : H .empty)
    (h : parseAuthority idna scheme auth = some a) :
    H a.host ∧ (isSpecialScheme scheme = true → a.host ≠ .empty) ∧
    (a.host = .empty → a.username = [] ∧ a.password = [] ∧ a.port = none) ∧ portOk scheme a.port ∧
    (∃ c, a.username = credUser c ∧ a.password = credPass c) := by
  unfold parseAuthority at h
  simp only at h
  split at h; · cases h
  rename_i hc
  split at h; · cases h
  rename_i hp hhp
  injection h with h; subst h
  obtain ⟨h1, h2, h3, h4⟩ := parseHostPort_ok idna scheme _ hp.1 hp.2 H hH hE (by simpa using hhp)
  refine ⟨h1, h2, ?_, h4, _, rfl, rfl⟩
  intro he
  obtain ⟨he1, he2⟩ := h3 he
  simp only
  rw [he1] at hc
  cases hcr : (splitCredentials auth).1 with
  | none => simp [credUser, credPass, he2]
  | some c => simp [hcr] at hc

theorem Parsed.invOk {u : Url} (hb : ∀ b, base = some b → InvOk b) (h : Parsed idna base pre followed u) : InvOk u := by
  cases h with
  | @authority scheme _ _ a hs hnf ha =>
    obtain ⟨h1, h2, h3, h4, _⟩ := parseAuthority_ok idna scheme _ a (fun h => hostWf (some h) = true)
      (fun s h => hostParse_wf idna s _ h) rfl ha
    refine ⟨hs.elim id (fun ⟨b, hb', e⟩ => e ▸ (hb b hb').scheme), h1,
      fun hsp => ⟨rfl, pathStartState_special_ne_nil _ _ hsp, _, rfl, fun _ => h2 hsp⟩, ?_, h4, by simp⟩
    rintro (e | e | e)
    · cases e
    · injection e with e; exact h3 e
    · exact absurd e hnf
  | @fileHost h _ hh =>
    refine ⟨schemeOk_file, ?_, fun _ => ⟨rfl, pathState_ne_nil _ _ _, _, rfl, fun e => absurd rfl e⟩,
      fun _ => ⟨rfl, rfl, rfl⟩, trivial, by simp⟩
    rcases hh with rfl | ⟨buf, hne, hp, _⟩
    · rfl
    · exact (hostParse_wf idna buf false h hne hp).1
  | @fileBase b _ _ hbe hf hP =>
    have r := hb b hbe
    obtain ⟨_, _, hh⟩ := r.special (by rw [hf]; exact special_file)
    exact ⟨schemeOk_file, r.wf, fun _ => ⟨rfl, pathState_ne_nil _ _ _, hh.imp fun _ h => ⟨h.1, fun e => absurd rfl e⟩⟩,
      fun _ => ⟨rfl, rfl, rfl⟩, trivial, by simp⟩
  | @fileKeep b _ hbe hf hq =>
    have r := hb b hbe
    obtain ⟨_, hp, hh⟩ := r.special (by rw [hf]; exact special_file)
    exact ⟨schemeOk_file, r.wf, fun _ => ⟨rfl, hp, hh.imp fun _ h => ⟨h.1, fun e => absurd rfl e⟩⟩,
      fun _ => ⟨rfl, rfl, rfl⟩, trivial, by simp⟩
  | @relative b _ _ hbe ho hnf hP =>
    have r := hb b hbe
    exact ⟨r.scheme, r.wf, fun hs => ⟨rfl, pathState_ne_nil _ _ _, (r.special hs).2.2⟩, r.nocred, r.port, by simp⟩
  | @relativeKeep b hbe ho hnf =>
    have r := hb b hbe
    exact ⟨r.scheme, r.wf, fun hs => ⟨rfl, (r.special hs).2⟩, r.nocred, r.port, by simp⟩
  | pathOnly hs hns =>
    exact ⟨hs, rfl, fun h => (by rw [hns] at h; cases h), fun _ => ⟨rfl, rfl, rfl⟩, trivial, by simp⟩
  | opaquePath hs hns hp hhd =>
    exact ⟨hs, rfl, fun h => (by rw [hns] at h; cases h), fun _ => ⟨rfl, rfl, rfl⟩, trivial, fun _ => rfl⟩
  | @opaqueKeep b hbe ho =>
    have r := hb b hbe
    refine ⟨r.scheme, rfl, fun h => ?_, fun _ => ⟨rfl, rfl, rfl⟩, trivial, fun _ => rfl⟩
    have := (r.special h).1
    rw [ho] at this; cases this

theorem recinv_with_qf (u : Url) (q f : Option Bytes) (h : RecInv u = true) :
    RecInv { u with query := q, fragment := f } = true :=
  (recInv_iff _).2 (((recInv_iff u).1 h).with_path u.path (fun hs => (((recInv_iff u).1 h).special hs).2.1) u.opath q f)

/-- every URL produced by the basic URL parser satisfies the record invariants,
    for every input and every base that satisfies them. -/
theorem parse_inv (idna : Idna) (input : Bytes) (base : Option Url) (u : Url)
    (hb : ∀ b, base = some b → RecInv b = true)
    (h : parse idna input base = some u) : RecInv u = true := by
  unfold parse at h
  simp only at h
  split at h; · cases h
  rename_i u0 hc
  have h0 := (recInv_iff u0).2 ((parseCore_parsed hc).invOk (fun b e => (recInv_iff b).1 (hb b e)))
  injection h with h; subst h
  -- fragment set or not, query set or not
  split
  · split
    · exact recinv_with_qf _ _ _ (recinv_with_qf _ _ _ h0)
    · exact recinv_with_qf _ _ _ h0
  · split
    · exact recinv_with_qf _ _ _ h0
    · exact h0

end AdaVerif.Lemmas
