import AdaVerif.Lemmas.SearchParams
import AdaVerif.Lemmas.FormDecode
import AdaVerif.Lemmas.SpecScans
import AdaVerif.Spec.Form
/-
URLSearchParams: construction, `to_string` and `set` are the Standard's urlencoded parser and serializer
and its "set" on the list of pairs.
-/
namespace AdaVerif.Lemmas
open AdaVerif AdaVerif.Model AdaVerif.Model.USP

/-- the model's idiom for a cut: `takeWhile`, compare lengths, `drop` -/
theorem cutAt_eq_takeWhile (c : UInt8) (s : Bytes) :
    Spec.cutAt c s = (s.takeWhile (· != c),
      if (s.takeWhile (· != c)).length == s.length then none else some (s.drop ((s.takeWhile (· != c)).length + 1))) := by
  induction s with
  | nil => rfl
  | cons b rest ih =>
    unfold Spec.cutAt
    by_cases h : b = c
    · subst h; simp
    · have hb : (b == c) = false := by simpa using h
      have hb' : (b != c) = true := by simpa using h
      simp only [hb, Bool.false_eq_true, ↓reduceIte, ih, List.takeWhile_cons, hb', List.length_cons,
        List.drop_succ_cons, Nat.add_right_cancel_iff, beq_iff_eq]

theorem splitOn_eq_cutAt (c : UInt8) (s : Bytes) :
    Spec.splitOn c s = (Spec.cutAt c s).1 :: (match (Spec.cutAt c s).2 with | none => [] | some r => Spec.splitOn c r) := by
  induction s with
  | nil => rfl
  | cons b rest ih =>
    cases h : b == c
    · simp only [Spec.splitOn, Spec.cutAt, h, Bool.false_eq_true, ↓reduceIte]
      rw [ih]
    · simp only [Spec.splitOn, Spec.cutAt, h, ↓reduceIte]

theorem processKeyValue_eq (cur : Bytes) :
    processKeyValue cur = (Spec.formDecode (Spec.cutAt 0x3D cur).1, Spec.formDecode ((Spec.cutAt 0x3D cur).2.getD [])) := by
  unfold processKeyValue
  rw [cutAt_eq_takeWhile]
  simp only [formDecode_eq]
  split
  · rename_i hl
    rw [(List.takeWhile_sublist _).eq_of_length (by simpa using hl)]
    rfl
  · rfl

theorem splitOn_cons_sep (c : UInt8) (r : Bytes) : Spec.splitOn c (c :: r) = [] :: Spec.splitOn c r := by
  simp [Spec.splitOn]

theorem initLoop_eq (fuel : Nat) (input : Bytes) (acc : USP) (hf : input.length < fuel) :
    initLoop fuel input acc = acc ++ Spec.formParseBody input := by
  induction fuel generalizing input acc with
  | zero => omega
  | succ f ih =>
    unfold initLoop Spec.formParseBody
    rw [splitOn_eq_cutAt, cutAt_eq_takeWhile]
    cases input with
    | nil => simp
    | cons b t =>
      simp only [List.isEmpty_cons, Bool.false_eq_true, ↓reduceIte]
      split
      · rename_i hl
        rw [(List.takeWhile_sublist _).eq_of_length (by simpa using hl)]
        simp [processKeyValue_eq]
      · rw [ih _ _ (by simp only [List.length_drop, List.length_cons] at hf ⊢; omega)]
        simp only [Spec.formParseBody, List.filter_cons]
        split <;> simp [processKeyValue_eq, *]

theorem parse_eq_spec (s : Bytes) : USP.parse s = Spec.formParse s := by
  unfold USP.parse Spec.formParse
  simp only
  rw [initLoop_eq _ _ _ (Nat.lt_succ_self _), List.nil_append]
  -- both sides strip one leading `?`
  split
  · rfl
  · rename_i hno
    split
    · rename_i rest; exact absurd rfl (hno rest)
    · rfl

/-- per-byte output of the form serializer: `Spec.percentEncodeForm s` is `s.flatMap formByte` by definition -/
def formByte (b : UInt8) : Bytes :=
  if b == 0x20 then [0x2B] else if Spec.inForm b then Spec.pctByte b else [b]

/-- one byte of `to_string`: escape by the form bitmap (which leaves space out), then `replace(' ', '+')` -/
theorem formByte_eq (b : UInt8) :
    (if bitAt Gen.formSet b then Spec.pctByte b else [b]).map (fun x => if x == 0x20 then 0x2B else x) =
      formByte b := by
  rw [bitAt_formSet]
  unfold formByte
  by_cases h20 : b = 0x20
  · subst h20; decide
  · have : (b == 0x20) = false := by simpa using h20
    simp only [this, bne, Bool.not_false, Bool.and_true, Bool.false_eq_true, ↓reduceIte]
    split
    · exact map_pctByte _ rfl (fun x hx => replace_hex 0x20 0x2B x (by decide) hx) b
    · simp only [List.map_cons, List.map_nil, this, Bool.false_eq_true, ↓reduceIte]

theorem encodeComponent_spec (s : Bytes) : encodeComponent s = Spec.percentEncodeForm s := by
  unfold encodeComponent
  rw [percentEncode_eq, Spec.percentEncode, List.map_flatMap]
  exact congrArg s.flatMap (funext formByte_eq)

theorem toString_eq_spec (l : USP) : USP.toString l = Spec.formSerialize l := by
  unfold USP.toString
  induction l with
  | nil => rfl
  | cons p rest ih =>
    cases rest with
    | nil => simp [toStringAux, Spec.formSerialize, pieceToString, encodeComponent_spec]
    | cons q r =>
      simp only [toStringAux, Spec.formSerialize, pieceToString, encodeComponent_spec] at ih ⊢
      rw [ih]

theorem set_eq_spec (l : USP) (k v : Bytes) : USP.set l k v = Spec.pairsSet l k v := by
  unfold Spec.pairsSet
  induction l with
  | nil => simp [USP.set]
  | cons p rest ih =>
    simp only [USP.set]
    by_cases hp : (p.1 == k) = true
    · have hk : p.1 = k := by simpa using hp
      simp [hp, hk]
    · have hp' : (p.1 == k) = false := by simpa using hp
      simp only [hp', Bool.false_eq_true, ↓reduceIte, List.any_cons, Bool.false_or, List.takeWhile_cons,
        Bool.not_false, List.length_cons, List.take_succ_cons, List.drop_succ_cons, List.cons_append] at ih ⊢
      rw [ih]
      split <;> simp

end AdaVerif.Lemmas
