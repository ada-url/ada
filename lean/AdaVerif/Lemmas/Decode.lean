import AdaVerif.Lemmas.Encode
/-
Decode laws: the C++ decoder is the Standard's, and percent-decoding inverts percent-encoding.
-/
namespace AdaVerif.Lemmas
open AdaVerif AdaVerif.Model

def headsHex : Bytes → Bool
  | x :: y :: _ => isAsciiHexDigit x && isAsciiHexDigit y
  | _ => false

theorem isHex_eq (b : UInt8) : isHex b = isAsciiHexDigit b := by
  simp [isHex, isAsciiHexDigit, isAsciiDigit]

theorem hexToBinary_eq : ∀ b : UInt8, isAsciiHexDigit b = true → hexToBinary b = hexVal b := by
  apply forall_uint8_of_fin; decide +kernel

theorem hexToBinary_index (b : UInt8) (h : isAsciiHexDigit b = true) :
    b.toNat - 48 < Gen.hexToBinaryTable.length := by
  have : Gen.hexToBinaryTable.length = 55 := by decide
  simp only [isAsciiHexDigit, isAsciiDigit, Bool.or_eq_true, Bool.and_eq_true, decide_eq_true_eq] at h
  omega

theorem unhex_spec : ∀ b : UInt8,
    (isAsciiHexDigit b = true → unhex b = hexVal b) ∧ (isAsciiHexDigit b = false → unhex b = 255) :=
  forall_tget (T := Gen.unhexTable)
    (Q := fun b v => (isAsciiHexDigit b = true → v = hexVal b) ∧ (isAsciiHexDigit b = false → v = 255))
    (by decide +kernel) (by decide +kernel)

theorem hexVal_lt (b : UInt8) : hexVal b < 16 := by
  unfold hexVal isAsciiDigit
  -- each branch subtracts the start of its range of digits from a byte inside that range
  grind

theorem decode_cons_plain (a : UInt8) (t : Bytes) (h : a ≠ 0x25 ∨ headsHex t = false) :
    Spec.percentDecode (a :: t) = a :: Spec.percentDecode t := by
  match t with
  | [] => simp [Spec.percentDecode]
  | [x] => simp [Spec.percentDecode]
  | x :: y :: r =>
    simp only [Spec.percentDecode]
    have : ¬ ((a == 0x25 && isAsciiHexDigit x && isAsciiHexDigit y) = true) := by
      intro hh
      simp only [Bool.and_eq_true, beq_iff_eq] at hh
      rcases h with h | h
      · exact h hh.1.1
      · simp [headsHex, hh.1.2, hh.2] at h
    simp [this]

theorem decodeLoop_eq (s : Bytes) : decodeLoop s = Spec.percentDecode s := by
  fun_induction decodeLoop s with
  | case1 => rfl
  | case2 ch h1 h2 rest h ih =>
    rw [ih]
    refine (decode_cons_plain ch _ ?_).symm
    simp only [isHex_eq, Bool.or_eq_true, bne_iff_ne, ne_eq, Bool.not_eq_true'] at h
    simp only [headsHex, Bool.and_eq_false_iff]
    exact or_assoc.mp h
  | case3 ch h1 h2 rest h ih =>
    simp only [isHex_eq, Bool.or_eq_true, bne_iff_ne, ne_eq, Bool.not_eq_true', not_or,
      Bool.not_eq_false, Decidable.not_not] at h
    simp only [Spec.percentDecode, h.1.1, h.1.2, h.2, beq_self_eq_true, Bool.and_self, ↓reduceIte, ih]
    rw [hexToBinary_eq h1 h.1.2, hexToBinary_eq h2 h.2]
  | case4 ch rest hno ih =>
    match rest with
    | [] => simp [Spec.percentDecode, decodeLoop]
    | [x] => simp [Spec.percentDecode, decodeLoop]
    | x :: y :: r => exact absurd rfl (hno x y r)

theorem decode_append_plain (pre t : Bytes) (h : ∀ b ∈ pre, b ≠ 0x25) :
    Spec.percentDecode (pre ++ t) = pre ++ Spec.percentDecode t := by
  induction pre with
  | nil => rfl
  | cons a r ih =>
    rw [List.cons_append, decode_cons_plain a _ (.inl (h a (by simp))), ih fun b hb => h b (by simp [hb])]
    rfl

theorem pct_facts (b : UInt8) :
    isAsciiHexDigit (hexUpper (b.toNat / 16)) = true ∧ isAsciiHexDigit (hexUpper (b.toNat % 16)) = true ∧
    UInt8.ofNat (hexVal (hexUpper (b.toNat / 16)) * 16 + hexVal (hexUpper (b.toNat % 16))) = b := by
  have hi := hexUpper_spec (b.toNat / 16) (by have := b.toNat_lt; omega)
  have lo := hexUpper_spec (b.toNat % 16) (by omega)
  refine ⟨hi.1, lo.1, ?_⟩
  rw [hi.2, lo.2, Nat.div_add_mod', UInt8.ofNat_toNat]

theorem decode_pctByte (b : UInt8) (t : Bytes) :
    Spec.percentDecode (Spec.pctByte b ++ t) = b :: Spec.percentDecode t := by
  obtain ⟨h1, h2, h3⟩ := pct_facts b
  simp [Spec.pctByte, Spec.percentDecode, h1, h2, h3]

theorem mem_pctByte {b x : UInt8} (h : x ∈ Spec.pctByte b) : x = 0x25 ∨ isAsciiHexDigit x = true := by
  obtain ⟨h1, h2, _⟩ := pct_facts b
  simp only [Spec.pctByte, List.mem_cons, List.not_mem_nil, or_false] at h
  rcases h with rfl | rfl | rfl
  · exact .inl rfl
  · exact .inr h1
  · exact .inr h2

theorem map_pctByte (f : UInt8 → UInt8) (h25 : f 0x25 = 0x25) (hhex : ∀ x, isAsciiHexDigit x = true → f x = x)
    (b : UInt8) : (Spec.pctByte b).map f = Spec.pctByte b := by
  obtain ⟨h1, h2, _⟩ := pct_facts b
  simp only [Spec.pctByte, List.map_cons, List.map_nil, h25, hhex _ h1, hhex _ h2]

theorem replace_hex (c d x : UInt8) (hc : isAsciiHexDigit c = false) (hx : isAsciiHexDigit x = true) :
    (if x == c then d else x) = x := by
  split
  · rename_i h
    rw [beq_iff_eq] at h
    rw [h, hc] at hx
    cases hx
  · rfl

theorem spec_cons (p : UInt8 → Bool) (a : UInt8) (t : Bytes) :
    Spec.percentEncode p (a :: t) = (if p a then Spec.pctByte a else [a]) ++ Spec.percentEncode p t := rfl

theorem set_chain (b : UInt8) :
    (Spec.inC0 b → Spec.inFragment b) ∧ (Spec.inC0 b → Spec.inQuery b) ∧
    (Spec.inQuery b → Spec.inSpecialQuery b) ∧ (Spec.inQuery b → Spec.inPath b) ∧
    (Spec.inPath b → Spec.inUserinfo b) ∧ (Spec.inUserinfo b → Spec.inComponent b) ∧
    (Spec.inComponent b → Spec.inForm b) ∧ (Spec.inFragment b → Spec.inForm b) ∧
    (Spec.inSpecialQuery b → Spec.inForm b) := by
  -- each set is defined as an earlier one and more bytes
  have c0f (h : Spec.inC0 b = true) : Spec.inFragment b = true := by simp only [Spec.inFragment, h, Bool.true_or]
  have c0q (h : Spec.inC0 b = true) : Spec.inQuery b = true := by simp only [Spec.inQuery, h, Bool.true_or]
  have qs (h : Spec.inQuery b = true) : Spec.inSpecialQuery b = true := by simp only [Spec.inSpecialQuery, h, Bool.true_or]
  have qp (h : Spec.inQuery b = true) : Spec.inPath b = true := by simp only [Spec.inPath, h, Bool.true_or]
  have pu (h : Spec.inPath b = true) : Spec.inUserinfo b = true := by simp only [Spec.inUserinfo, h, Bool.true_or]
  have uc (h : Spec.inUserinfo b = true) : Spec.inComponent b = true := by simp only [Spec.inComponent, h, Bool.true_or]
  have cf (h : Spec.inComponent b = true) : Spec.inForm b = true := by simp only [Spec.inForm, h, Bool.true_or]
  refine ⟨c0f, c0q, qs, qp, pu, uc, cf, fun h => ?_, fun h => ?_⟩
  -- fragment adds a backquote to what it shares with query, and path has it
  · simp only [Spec.inFragment, Bool.or_eq_true] at h
    apply cf; apply uc; apply pu
    simp only [Spec.inPath, Spec.inQuery, Bool.or_eq_true]
    grind
  -- special-query adds an apostrophe to query, and form has it
  · simp only [Spec.inSpecialQuery, Bool.or_eq_true] at h
    rcases h with h | h
    · exact cf (uc (pu (qp h)))
    · simp only [Spec.inForm, h, Bool.or_true, Bool.true_or]

theorem inSet_le_form (S : Spec.EncodeSet) (b : UInt8) (h : Spec.inSet S b = true) : Spec.inForm b = true := by
  obtain ⟨_, c0q, _, qp, pu, uc, cf, ff, sf⟩ := set_chain b
  cases S
  · exact cf (uc (pu (qp (c0q h))))
  · exact ff h
  · exact cf (uc (pu (qp h)))
  · exact sf h
  · exact cf (uc (pu h))
  · exact cf (uc h)
  · exact cf h
  · exact h

theorem hex_not_inForm : ∀ b : UInt8, isAsciiHexDigit b = true → Spec.inForm b = false := by
  apply forall_uint8_of_fin; decide +kernel

theorem hex_not_inSet (S : Spec.EncodeSet) (b : UInt8) (h : isAsciiHexDigit b = true) : Spec.inSet S b = false := by
  cases hS : Spec.inSet S b with
  | false => rfl
  | true => exact absurd (inSet_le_form S b hS) (by simp [hex_not_inForm b h])

section
variable (p : UInt8 → Bool) (hhex : ∀ b, isAsciiHexDigit b = true → p b = false)
include hhex

theorem headsHex_encode (t : Bytes) :
    headsHex (Spec.percentEncode p t) = headsHex t := by
  have pctNoHex : isAsciiHexDigit 0x25 = false := by decide
  have escaped (x : UInt8) (hx : p x = true) : isAsciiHexDigit x = false := by
    cases h : isAsciiHexDigit x with
    | false => rfl
    | true => rw [hhex x h] at hx; cases hx
  match t with
  | [] => rfl
  | [x] =>
    rw [spec_cons]
    split <;> simp [headsHex, Spec.pctByte, Spec.percentEncode, pctNoHex]
  | x :: y :: r =>
    rw [spec_cons, spec_cons]
    by_cases hx : p x = true
    · simp [hx, headsHex, Spec.pctByte, pctNoHex, escaped x hx]
    · by_cases hy : p y = true
      · simp [hx, hy, headsHex, Spec.pctByte, pctNoHex, escaped y hy]
      · simp [hx, hy, headsHex]

/-- one byte of the round trip: `a` comes back unless, left as it is, it would begin an escape -/
theorem decode_encode_cons (a : UInt8) (t : Bytes) (h : p a = true ∨ a ≠ 0x25 ∨ headsHex t = false) :
    Spec.percentDecode (Spec.percentEncode p (a :: t)) = a :: Spec.percentDecode (Spec.percentEncode p t) := by
  rw [spec_cons]
  by_cases ha : p a = true
  · rw [if_pos ha, decode_pctByte]
  · rw [if_neg ha, List.singleton_append, decode_cons_plain]
    rw [headsHex_encode p hhex]
    exact h.resolve_left ha

theorem decode_encode_noPct (hp : p 0x25 = false) (s : Bytes) :
    Spec.percentDecode (Spec.percentEncode p s) = Spec.percentDecode s := by
  fun_induction Spec.percentDecode s with
  | case1 => rfl
  | case2 a => rw [decode_encode_cons p hhex a [] (.inr (.inr rfl))]; rfl
  | case3 a b =>
    rw [decode_encode_cons p hhex a [b] (.inr (.inr rfl)), decode_encode_cons p hhex b [] (.inr (.inr rfl))]
    rfl
  | case4 a b c rest h ih =>
    simp only [Bool.and_eq_true, beq_iff_eq] at h
    obtain ⟨⟨ha, hb⟩, hc⟩ := h
    subst ha
    -- an escape of the original is copied by the encoder
    have e : Spec.percentEncode p (0x25 :: b :: c :: rest) = 0x25 :: b :: c :: Spec.percentEncode p rest := by
      simp [spec_cons, hp, hhex b hb, hhex c hc]
    rw [e]
    simp only [Spec.percentDecode, hb, hc, beq_self_eq_true, Bool.and_self, ↓reduceIte, ih]
  | case5 a b c rest h ih =>
    rw [decode_encode_cons p hhex a _ (.inr _), ih]
    by_cases h25 : a = 0x25
    · subst h25
      simp only [beq_self_eq_true, Bool.true_and] at h
      exact .inr (by simpa [headsHex] using h)
    · exact .inl h25

theorem decode_encode_withPct (hp : p 0x25 = true) (s : Bytes) :
    Spec.percentDecode (Spec.percentEncode p s) = s := by
  induction s with
  | nil => rfl
  | cons a rest ih =>
    rw [decode_encode_cons p hhex a rest, ih]
    by_cases ha : p a = true
    · exact .inl ha
    · exact .inr (.inl fun h => ha (h ▸ hp))
end

/-- somewhere a `%` is followed by two hex digits -/
def hasEscape : Bytes → Bool
  | [] => false
  | a :: t => (a == 0x25 && headsHex t) || hasEscape t

theorem decode_noEscape (s : Bytes) (h : hasEscape s = false) : Spec.percentDecode s = s := by
  induction s with
  | nil => rfl
  | cons a t ih =>
    simp only [hasEscape, Bool.or_eq_false_iff, Bool.and_eq_false_iff, beq_eq_false_iff_ne] at h
    rw [decode_cons_plain a t h.1, ih h.2]

end AdaVerif.Lemmas
