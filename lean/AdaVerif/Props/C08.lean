import AdaVerif.Model.CanParse
import AdaVerif.Gen.ParserExits
import AdaVerif.Lemmas.FastSound
import AdaVerif.Lemmas.ParseValid
import AdaVerif.Lemmas.ParseBase
/-
C08 — can_parse answers exactly what parse would.

The size logic of `can_parse` is proved equal to "parse the base, then parse the input against it,
both under the limit" for every combination of lengths and limit, *given*
  (Expand3)  a normalized href is at most three times as long as its input (plus base), and
  (FastSound) a definite answer of the fast scanner equals the validity of the input.
FastSound is a theorem (`fast_scanner_sound`): `Model/FastScan.lean` transcribes `try_can_parse_absolute_fast`
and the decimal IPv4 kernel it calls, statement by statement; for every input and every IDNA parameter a
definite answer of that model is `(Spec.parse input none).isSome` (Lemmas/Fast*.lean: the trimming, the
http(s) shortcut and the 7-byte scheme window, the merged authority/host scan with its `xn--`, forbidden-byte
and IPv4 bookkeeping, the "last significant character" heuristic against the Standard's ends-in-a-number
checker, the decimal IPv4 kernel against the Standard's IPv4 parser, the port validation against the port
state).  The model is tied to the real scanner on every generated input (checks/props/c08.py, L1).
Expand3 stays an explicit hypothesis (it depends on the IDNA step); it and the validation-only parser's early
exits are decided on the implementation for every generated (input, base, L).
-/
namespace AdaVerif.Props.C08
open AdaVerif AdaVerif.Model

/-- what decides `parse` under any limit: the unlimited validity and the href length -/
structure ParseFacts where
  validIn : Bool           -- the input parses (no limit)
  hrefLen : Nat            -- length of its normalized href (meaningful when validIn)
  validBase : Bool
  baseHrefLen : Nat

def parseL (inLen : Nat) (valid : Bool) (hrefLen : Nat) (L : Nat) : Bool :=
  decide (inLen ≤ L) && valid && decide (hrefLen ≤ L)

/-- the reference answer: parse the base (if any) under L, then the input under L -/
def specCanParse (hasBase : Bool) (inLen baseLen : Nat) (f : ParseFacts) (L : Nat) : Bool :=
  if hasBase then parseL baseLen f.validBase f.baseHrefLen L && parseL inLen f.validIn f.hrefLen L
  else parseL inLen f.validIn f.hrefLen L

/-- The decision table equals the reference answer, for all lengths and every limit. -/
theorem can_parse_size_logic (e : CanParseEnv) (f : ParseFacts) (L : Nat)
    -- the environment really is "the parsers of the library":
    (hvi : e.validIn = f.validIn) (hvb : e.validBase = f.validBase)
    (hfi : e.fullIn L = parseL e.inLen f.validIn f.hrefLen L)
    (hfb : e.fullBase L = parseL e.baseLen f.validBase f.baseHrefLen L)
    -- FastSound
    (hfast : ∀ r, e.hasBase = false → e.fast = some r → r = f.validIn)
    -- Expand3
    (hx : f.validIn = true → f.hrefLen ≤ 3 * (e.inLen + (if e.hasBase then e.baseLen else 0)))
    (hxb : f.validBase = true → f.baseHrefLen ≤ 3 * e.baseLen) :
    canParse e L = specCanParse e.hasBase e.inLen e.baseLen f L := by
  have h3 : L / 3 * 3 ≤ L := Nat.div_mul_le_self L 3
  unfold canParse specCanParse
  rw [hfi, hfb, hvi, hvb]
  unfold parseL
  cases hb : e.hasBase
  · simp only [hb, Bool.false_eq_true, ↓reduceIte, Nat.add_zero] at hx ⊢
    cases hf : e.fast with
    | some r =>
      cases hfast r hb hf
      cases hv : f.validIn
      · simp
      · -- below a third of the limit Expand3 bounds the href; above it the full parser decides
        have := hx hv
        simp only [Bool.not_true, Bool.false_eq_true, ↓reduceIte, Bool.and_true]
        split
        · simp; omega
        · split
          · simp; omega
          · rfl
    | none =>
      cases hv : f.validIn
      · simp
      · have := hx hv
        simp only [Bool.false_and, Bool.false_eq_true, ↓reduceIte, Bool.and_true]
        split
        · simp; omega
        · split
          · simp; omega
          · rfl
  · simp only [hb, ↓reduceIte, Bool.true_and] at hx ⊢
    -- an invalid input or base makes both sides false; with both valid it is arithmetic on the three bounds
    cases hv : f.validIn
    · simp
    · cases hvb' : f.validBase
      · simp
      · have := hx hv
        have := hxb hvb'
        simp
        rw [Bool.eq_iff_iff]
        simp only [Bool.and_eq_true, Bool.or_eq_true, Bool.not_eq_true', decide_eq_true_eq, decide_eq_false_iff_not]
        omega

/-- FastSound: whenever the fast scanner (`try_can_parse_absolute_fast`) gives a definite answer, the answer is
    whether the basic URL parser accepts the input with no base; for every input and every IDNA parameter -/
theorem fast_scanner_sound (idna : Spec.Idna) (input : Bytes) (r : Bool)
    (h : Model.FastScan.fastScan input = some r) : r = (Spec.parse idna input none).isSome :=
  Lemmas.FS.fast_sound idna input r h

theorem fast_scanner_no_false_answers (idna : Spec.Idna) (input : Bytes) :
    (Model.FastScan.fastScan input = some true → (Spec.parse idna input none).isSome = true) ∧
    (Model.FastScan.fastScan input = some false → Spec.parse idna input none = none) := by
  constructor
  · intro h; exact (fast_scanner_sound idna input true h).symm
  · intro h
    have := fast_scanner_sound idna input false h
    cases hp : Spec.parse idna input none with
    | none => rfl
    | some u => rw [hp] at this; cases this

/-- the decision table with the scanner and the Spec parser plugged in: FastSound is discharged -/
theorem can_parse_size_logic_scanner (idna : Spec.Idna) (input : Bytes) (e : CanParseEnv) (f : ParseFacts) (L : Nat)
    (hscan : e.hasBase = false → e.fast = Model.FastScan.fastScan input)
    (hval : e.hasBase = false → f.validIn = (Spec.parse idna input none).isSome)
    (hvi : e.validIn = f.validIn) (hvb : e.validBase = f.validBase)
    (hfi : e.fullIn L = parseL e.inLen f.validIn f.hrefLen L)
    (hfb : e.fullBase L = parseL e.baseLen f.validBase f.baseHrefLen L)
    (hx : f.validIn = true → f.hrefLen ≤ 3 * (e.inLen + (if e.hasBase then e.baseLen else 0)))
    (hxb : f.validBase = true → f.baseHrefLen ≤ 3 * e.baseLen) :
    canParse e L = specCanParse e.hasBase e.inLen e.baseLen f L :=
  can_parse_size_logic e f L hvi hvb hfi hfb
    (fun r hb hf => by rw [hscan hb] at hf; rw [hval hb]; exact fast_scanner_sound idna input r hf) hx hxb

example : Model.FastScan.fastScan (ofStr "  https://EXAMPLE.com:0000080/x y") = some true := by decide +kernel
example : Model.FastScan.fastScan (ofStr "ws://1.2.3.4.:65536") = some false := by decide +kernel
example : Model.FastScan.fastScan (ofStr "http://a.xn--b/") = none := by decide +kernel
example : Model.FastScan.fastScan (ofStr "ftp://host.0x7f/") = none := by decide +kernel
example : Model.FastScan.fastScan (ofStr "http://:80/") = some false := by decide +kernel

/-- the validation-only instantiation leaves the parser only through exits that either mark the
    URL invalid or sit in states after which nothing can fail (PATH_START, PATH, OPAQUE_PATH):
    the three `if constexpr (!store_values) return url;` exits are exactly those (regenerated table) -/
theorem validation_only_exits :
    (Gen.parserExits.filter (·.notStore)).map (·.state) = ["OPAQUE_PATH", "PATH_START", "PATH"] := by decide

/-! Non-vacuity: a concrete environment meeting every hypothesis. -/
example : canParse ⟨false, 20, 0, some true, true, true, fun L => decide (20 ≤ L) && decide (22 ≤ L), fun _ => true⟩ 21 = false := by
  decide
example : specCanParse false 20 0 ⟨true, 22, true, 0⟩ 21 = false := by decide
example : canParse ⟨false, 20, 0, some true, true, true, fun L => decide (20 ≤ L) && decide (22 ≤ L), fun _ => true⟩ 60 = true := by
  decide

/-! The validation-only parser: `Model/ParseValid.lean` transcribes `parse_url_impl<ada::url_aggregator, false>` - the instantiation `can_parse` runs when the
sizes are far from the limit: nothing is stored, PATH_START / PATH / OPAQUE_PATH return at once, and of a base only
`is_valid`, `type` and `has_opaque_path` are read on the way to a verdict.  Its verdict is the verdict of the storing
parser, for every input and base - first against the `ada::url` model with no assumption at all, then (through C01)
against the Standard's parser.  This is what the fields `validIn` / `validBase` of the decision table above stand for (the table's theorems keep them as
hypotheses); the model is run against the real instantiation on every check (harness `vparse`: verdict, and `type` / `has_opaque_path` of
valid base runs). -/

open AdaVerif.Model.ParseSpecial AdaVerif.Model.ParseValid AdaVerif.Lemmas.PV in
/-- Validation-only = storing, model against model: no side condition, any IDNA parameter -/
theorem validation_only_is_storing (idna : Spec.Idna) (input : Bytes) :
    (machineV idna none input).valid = okOf (machine idna input) ∧
    (∀ rb, machine idna input = .ok rb →
      (machineV idna none input).ty = getSchemeType rb.scheme ∧ (machineV idna none input).opq = rb.opq) ∧
    (∀ (b : Model.UrlRec.Rec) (i2 : Bytes), b.special = (getSchemeType b.scheme != 1) →
      (machineV idna (some (getSchemeType b.scheme, b.opq)) i2).valid = okOf (machineB idna b i2)) :=
  ⟨machineV_valid idna input, fun rb h => machineV_leaves idna input rb h, fun b i2 h => machineV_valid_base idna b h i2⟩

/-- what `can_parse` computes on its validation-only route: the base first (if any), then the input against what that
    run left behind -/
def validationOnly (idna : Spec.Idna) (base : Option Bytes) (input : Bytes) : Bool :=
  match base with
  | none => (Model.ParseValid.machineV idna none input).valid
  | some bi =>
    let vb := Model.ParseValid.machineV idna none bi
    vb.valid && (Model.ParseValid.machineV idna (some (vb.ty, vb.opq)) input).valid

open AdaVerif.Model.ParseSpecial AdaVerif.Model.ParseValid AdaVerif.Lemmas.PV AdaVerif.Lemmas in
/-- … and it is the Standard's verdict (same side conditions as `Props.C01.parser_no_base_partial` /
    `parser_with_base_partial`; the invariants the with-base theorem needs of the base record are theorems about parsed
    records: C19's `parse_inv` and `parse_noSlash`) -/
theorem validation_only_is_parse (idna : Spec.Idna) (input : Bytes) (hid : ∀ d, HP.IdnaAt idna d)
    (hclean : AdaVerif.Lemmas.BR.bracketOk (schemeSpecial input) (hostStart input) = true) :
    validationOnly idna none input = (Spec.parse idna input none).isSome := by
  unfold validationOnly
  rw [machineV_valid, PS.machine_spec idna input hid hclean]
  cases Spec.parse idna input none <;> rfl

open AdaVerif.Model.ParseSpecial AdaVerif.Model.ParseValid AdaVerif.Lemmas.PV AdaVerif.Lemmas in
theorem validation_only_is_parse_base (idna : Spec.Idna) (bi input : Bytes) (hid : ∀ d, HP.IdnaAt idna d)
    (hcb : AdaVerif.Lemmas.BR.bracketOk (schemeSpecial bi) (hostStart bi) = true)
    (hci : ∀ b, Spec.parse idna bi none = some b →
      AdaVerif.Lemmas.BR.bracketOk (hostStartB (UR.recOf b) input).1 (hostStartB (UR.recOf b) input).2 = true) :
    validationOnly idna (some bi) input =
      match Spec.parse idna bi none with
      | none => false
      | some b => (Spec.parse idna input (some b)).isSome := by
  unfold validationOnly
  simp only
  have hm := PS.machine_spec idna bi hid hcb
  rw [machineV_valid, hm]
  cases hp : Spec.parse idna bi none with
  | none => rfl
  | some b =>
    rw [hp] at hm
    obtain ⟨hty, hopq⟩ := machineV_leaves idna bi (UR.recOf b) hm
    rw [hty, hopq]
    have hsp : (UR.recOf b).special = (getSchemeType (UR.recOf b).scheme != 1) := (Proto.type_facts b.scheme).1.symm
    rw [machineV_valid_base idna (UR.recOf b) hsp input]
    have hok : PB.BaseOk b := ⟨parse_inv idna bi none b (by intro x hx; cases hx) hp, parse_noSlash idna bi b hp⟩
    rw [PB.machineB_spec idna b hok input hid (hci b hp)]
    simp only [PS.outOf, okOf, Bool.true_and]
    cases Spec.parse idna input (some b) <;> rfl

/-- worked instances (kernel-evaluated): a relative reference against a special base, against an opaque base, a host that
    fails only in the second run -/
example : validationOnly ⟨fun _ => none⟩ (some (ofStr "http://h/a/b")) (ofStr "../x?q#f") = true ∧
    validationOnly ⟨fun _ => none⟩ (some (ofStr "mailto:x@y")) (ofStr "x") = false ∧
    validationOnly ⟨fun _ => none⟩ (some (ofStr "mailto:x@y")) (ofStr "#f") = true ∧
    validationOnly ⟨fun _ => none⟩ (some (ofStr "http://h/")) (ofStr "//a b/") = false ∧
    validationOnly ⟨fun _ => none⟩ (some (ofStr "ht tp://h/")) (ofStr "x") = false := by decide +kernel

end AdaVerif.Props.C08
