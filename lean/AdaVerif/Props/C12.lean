import AdaVerif.Lemmas.SearchParamsRT
import AdaVerif.Lemmas.Utf16
/-
C12 — URLSearchParams behaves as the Standard's ordered list of name-value pairs.

Model/SearchParams.lean transcribes every member function of ada::url_search_params (including
the hand-written UTF-8 → UTF-16 comparator of `sort()`); it is run against the real class and the
C API handle on generated operation sequences (checks/props/c12.py).  Interpretation (DESIGN §5):
the Standard's parser at *byte level* - no final lossy UTF-8 decode - because the property demands
byte-exact round trips for arbitrary byte strings.
-/
namespace AdaVerif.Props.C12
open AdaVerif AdaVerif.Model AdaVerif.Model.USP AdaVerif.Lemmas

/-- construction follows application/x-www-form-urlencoded parsing -/
theorem construct_is_form_parse (s : Bytes) : USP.parse s = Spec.formParse s := parse_eq_spec s

/-- `to_string` follows the urlencoded serializer -/
theorem to_string_is_form_serialize (l : USP) : USP.toString l = Spec.formSerialize l := toString_eq_spec l

/-- round trip: serialising any list of pairs of arbitrary byte strings and parsing the
    result returns the same list -/
theorem roundtrip (l : USP) : USP.parse (USP.toString l) = l := parse_toString l

/-- `set` is the Standard's set: first occurrence replaced in place, later ones removed, or appended -/
theorem set_is_standard (l : USP) (k v : Bytes) : USP.set l k v = Spec.pairsSet l k v := set_eq_spec l k v

theorem set_then_get_all (l : USP) (k v : Bytes) : USP.getAll (USP.set l k v) k = [v] := getAll_set l k v
theorem set_keeps_others (l : USP) (k v : Bytes) :
    (USP.set l k v).filter (fun p => !(p.1 == k)) = l.filter (fun p => !(p.1 == k)) := others_set l k v
theorem set_keeps_position (l : USP) (k v : Bytes) :
    (USP.set l k v).takeWhile (fun p => !(p.1 == k)) = l.takeWhile (fun p => !(p.1 == k)) := position_set l k v
theorem remove_removes_all (l : USP) (k : Bytes) : USP.getAll (USP.remove l k) k = [] := getAll_remove l k
theorem remove_keeps_others (l : USP) (k k' : Bytes) (h : (k' == k) = false) :
    USP.getAll (USP.remove l k) k' = USP.getAll l k' := others_remove l k k' h
theorem append_appends (l : USP) (k v : Bytes) : USP.getAll (USP.append l k v) k = USP.getAll l k ++ [v] :=
  getAll_append l k v
theorem has_is_nonempty_get_all (l : USP) (k : Bytes) : USP.has l k = !(USP.getAll l k).isEmpty := has_iff_getAll l k
theorem get_is_first (l : USP) (k : Bytes) : USP.get l k = (USP.getAll l k).head? := get_eq_head_getAll l k

/-- the comparator is lexicographic comparison of the UTF-16 code-unit streams its decoder yields -/
theorem comparator_is_code_unit_order (x y : Pair) :
    USP.keyLess x y = lexLt (units (x.1, 0)) (units (y.1, 0)) := keyLess_eq x y

/-- it is a strict weak order (the precondition of `std::stable_sort`; no undefined behaviour):
    irreflexive, transitive, and incomparability is transitive -/
theorem comparator_strict_weak_order :
    (∀ x : Pair, USP.keyLess x x = false) ∧
    (∀ x y z : Pair, USP.keyLess x y = true → USP.keyLess y z = true → USP.keyLess x z = true) ∧
    (∀ x y z : Pair, keyLe x y = true → keyLe y z = true → keyLe x z = true) :=
  ⟨keyLess_irrefl, keyLess_trans, keyLe_trans⟩

theorem sort_perm (l : USP) : (USP.sort l).Perm l := List.mergeSort_perm l _

/-- `sort` orders by code units: no later name is smaller than an earlier one -/
theorem sort_sorted (l : USP) : (USP.sort l).Pairwise (fun x y => keyLe x y = true) :=
  List.pairwise_mergeSort (le := keyLe) keyLe_trans keyLe_total l

/-- `sort` is stable: pairs whose names compare equal keep their relative order (any sublist that
    is already in order stays a sublist) -/
theorem sort_stable (l c : USP) (hc : c.Pairwise (fun x y => keyLe x y = true)) (h : c.Sublist l) :
    c.Sublist (USP.sort l) :=
  List.sublist_mergeSort (le := keyLe) keyLe_trans keyLe_total hc h

/-- surrogate pairs sort below U+E000..U+FFFF: the code units of U+1F600 (D83D DE00) precede U+E000 -/
example : USP.keyLess ([0xF0, 0x9F, 0x98, 0x80], []) ([0xEE, 0x80, 0x80], []) = true := by decide +kernel
example : USP.keyLess (ofStr "z", []) ([0xC3, 0xA9], []) = true := by decide +kernel
example : units ([0x61, 0xF0, 0x9F, 0x98, 0x80], 0) = [0x61, 0xD83D, 0xDE00] := by decide +kernel

/-- the hand-written decoder inside the comparator is exactly UTF-8 → UTF-16: on the UTF-8 encoding of
    any sequence of Unicode scalar values it emits the UTF-16 encoding of that sequence -/
theorem decoder_is_utf16 (cps : List Nat) (h : ∀ cp ∈ cps, isScalar cp) : units (utf8 cps, 0) = utf16 cps :=
  units_utf8 cps h

/-- hence `sort()` orders well-formed keys by UTF-16 code units, the order the URL Standard prescribes -/
theorem comparator_is_utf16_order (a b : List Nat) (va vb : Bytes) (ha : ∀ cp ∈ a, isScalar cp) (hb : ∀ cp ∈ b, isScalar cp) :
    USP.keyLess (utf8 a, va) (utf8 b, vb) = lexLt (utf16 a) (utf16 b) := keyLess_utf16 a b va vb ha hb

example : utf8 [0x61, 0xE9, 0x20AC, 0x1F600] = [0x61, 0xC3, 0xA9, 0xE2, 0x82, 0xAC, 0xF0, 0x9F, 0x98, 0x80] := by decide +kernel
example : utf16 [0x61, 0xE9, 0x20AC, 0x1F600] = [0x61, 0xE9, 0x20AC, 0xD83D, 0xDE00] := by decide +kernel

example : USP.parse (ofStr "?a=1&&b=%zz&a=+x%2B&c") =
    [(ofStr "a", ofStr "1"), (ofStr "b", ofStr "%zz"), (ofStr "a", ofStr " x+"), (ofStr "c", [])] := by decide +kernel
example : USP.toString [(ofStr "a b", ofStr "&="), ([], [])] = ofStr "a+b=%26%3D&=" := by decide +kernel
example : USP.set [(ofStr "a", ofStr "1"), (ofStr "b", ofStr "2"), (ofStr "a", ofStr "3")] (ofStr "a") (ofStr "9") =
    [(ofStr "a", ofStr "9"), (ofStr "b", ofStr "2")] := by decide +kernel

end AdaVerif.Props.C12
