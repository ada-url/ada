import AdaVerif.Lemmas.Scheme
import AdaVerif.Spec.Setters
import AdaVerif.Lemmas.PathMain
import AdaVerif.Lemmas.SimpleAbs
import AdaVerif.Lemmas.ParseSpecial
import AdaVerif.Lemmas.ParseBase
import AdaVerif.Lemmas.ParseAgg
import AdaVerif.Lemmas.ParseAggBase
import AdaVerif.Lemmas.ParseValid
import AdaVerif.Props.C04
import AdaVerif.Props.C10
/-
C01 — Parsing conforms to the WHATWG URL Standard for every input and base.

Oracle: `Spec.parse` (Spec/Url.lean), the structured transcription of the basic URL parser,
validated on every run against the WPT vectors in /repo/tests/wpt.  The implementation is
compared with it on generated (input, base) pairs (correspondence).  The theorems below prove,
for all inputs, that ada's *shortcut layers* compute what the Standard's plain definition
computes, and that the generated tables (scheme names and default ports, scheme code points,
double-dot spellings) are the Standard's.

The path state is more than compared: `Model/PathPrepared.lean` transcribes `helpers::parse_prepared_path` (the
path builder of `ada::url`: `path_signature`, the trivial / fast / general code paths, `shorten_path`, the
hash-table dot-segment tests, drive letters) and `path_builder_is_path_state` proves that, for every input, scheme
type and path built so far, it produces the serialisation of `Spec.pathSegments` over the segments of the input
(Lemmas/Path*.lean).  The model is run against the real function on every check (checks/pathcorr.py).
-/
namespace AdaVerif.Props.C01
open AdaVerif AdaVerif.Model AdaVerif.Lemmas AdaVerif.Spec

/-- the path builder is the Standard's path state: `helpers::parse_prepared_path(input, type, path)` appends to the
    serialised path exactly what the path state does with the segments of `input`, whichever of its three code
    paths (trivial, fast, general) the signature selects.  `ty` is the scheme type of the C++ (6 = file, 1 = not
    special), `segs` the path so far as a list of '/'-free segments. -/
theorem path_builder_is_path_state (scheme : Bytes) (ty : Nat) (hty : PP.TyOf scheme ty) (input : Bytes)
    (segs : List Bytes) (hn : PP.NoSlash segs) :
    PathPrepared.parsePreparedPath input ty (FP.pathText segs) =
      FP.pathText (pathSegments scheme (splitPath (isSpecialScheme scheme) input) segs) :=
  PP.parsePreparedPath_eq scheme ty hty input segs hn

/-- `helpers::shorten_path` on the serialised path is the Standard's "shorten a url's path" -/
theorem shorten_path_is_shorten (scheme : Bytes) (ty : Nat) (hty : (ty == 6) = (scheme == bFile)) (segs : List Bytes)
    (hn : PP.NoSlash segs) :
    PathPrepared.shortenPath (FP.pathText segs) ty = FP.pathText (Spec.shortenPath scheme segs) :=
  PP.shortenPath_eq scheme ty hty segs hn

/-- the hash-table dot-segment tests are the Standard's definitions, for every byte string -/
theorem dot_segment_tests (s : Bytes) :
    PathPrepared.isDoubleDot s = Spec.isDoubleDot s ∧ PathPrepared.isSingleDot s = Spec.isSingleDot s :=
  ⟨PP.doubleDot_eq s, PP.singleDot_eq s⟩

/-- the parser's fast path is sound: `parser::try_parse_simple_absolute` (the single-pass shortcut for absolute
    http(s) URLs in normal form, `Model/SimpleAbs.lean`, run against both instantiations on every check) accepts only
    inputs the Standard's parser accepts, and the fields it writes - scheme, lower-cased host, path (a "/" when the input
    has none), query, fragment - are those of the Standard's record: the two class tables admit no byte of any
    percent-encode set, the host test excludes IPv4 spellings and ACE labels, the dot-segment scan excludes every "." and
    ".." segment, so every state of the Standard's parser leaves the text as it is (`Lemmas/SimpleAbs.lean`).
    Whatever the IDNA function: the hosts it accepts never reach it. -/
theorem fast_path_sound (idna : Idna) (input : Bytes) (r : UrlRec.Rec) (h : SimpleAbs.trySimple input = some r) :
    ∃ u, parse idna input none = some u ∧ UR.recOf u = r :=
  SA.trySimple_sound idna input r h

/-- worked instance: upper-case host, no path -/
example : (SimpleAbs.trySimple (ofStr "https://EXAMPLE.com?q#f")).map (fun r => (r.host, r.path, r.query, r.hash)) =
    some (some (ofStr "example.com"), ofStr "/", some (ofStr "q"), some (ofStr "f")) := by decide +kernel
example : SimpleAbs.trySimple (ofStr "http://example.com/a/../b") = none := by decide +kernel

/-- the parser's state machine is the Standard's parser, for every input without a base: `parse_url_impl<ada::url>`
    (`Model/ParseSpecial.lean`: tab/newline removal, C0 trimming, `prune_hash`, SCHEME_START, SCHEME with
    `parse_scheme`, SPECIAL_AUTHORITY_SLASHES, SPECIAL_AUTHORITY_IGNORE_SLASHES, PATH_OR_AUTHORITY, the `do … while` of
    AUTHORITY with its credential accumulation over several '@' and both delimiter scans, HOST with
    `get_host_delimiter_location` and `parse_host` (empty hosts of non-special schemes included), PORT with `parse_port`
    and its trailing-content check, PATH_START, PATH through `parse_prepared_path`, OPAQUE_PATH with its trailing-space
    rule, FILE, FILE_SLASH and FILE_HOST with the drive-letter test and the `localhost` rule, QUERY with either encode
    set, the fragment, and the fast path in front of it all) answers exactly the record `Spec.parse` builds - failure
    for failure, field for field - whatever the scheme, or when there is none.
    `ada::idna::to_ascii` is a parameter (its answers are assumed ASCII lower case and the identity on ASCII domains
    without an ACE label - `IdnaAt`; C06 decides the function itself).  *Partial*: the statement carries the side
    condition `Lemmas/Bracket.bracketOk` on the text behind the credentials: no '/', '?' (or '\\' under a special scheme)
    between a '[' and the next ']' - or the scheme is not special - or that text starts with '['.
    (`get_host_delimiter_location` jumps to the ']' where the Standard's host state stops at the delimiter.  When the
    scheme is not special or the host starts with '[', `Lemmas/Bracket.lean` follows both into their host parsers and
    proves that both fail: the Standard's buffer holds a '[' and does not end in ']', ada's runs over the delimiter, which
    no IPv6 literal (`ipv6Parse_bytes`) and no opaque host admits.  What is left out is a special scheme whose host has
    text in front of the '[', as in "http://a[/]": there both fail in the domain route, after IDNA, which is a parameter
    here; the correspondence run compares those inputs.)  `file` URLs never get there;
    `bracket_condition_plain` gives the plain sufficient condition "no '[' in the input",
    `bracket_condition_not_special` "the scheme is not special". -/
theorem parser_no_base_partial (idna : Idna) (input : Bytes) (hid : ∀ d, HP.IdnaAt idna d)
    (hclean : AdaVerif.Lemmas.BR.bracketOk (ParseSpecial.schemeSpecial input) (ParseSpecial.hostStart input) = true) :
    ParseSpecial.parseNoBase idna input = PS.outOf (parse idna input none) :=
  PS.parseNoBase_spec idna input hid hclean

/-- … and so does the default type: `parse_url_impl<ada::url_aggregator>(input, nullptr)` (`Model/ParseAgg.lean`, the
    editor-level branches of the same template) leaves in its single buffer the layout - bytes
    and all eight offsets - of the record `Spec.parse` builds, and fails exactly when the Standard's parser fails -/
theorem aggregator_parser_no_base_partial (idna : Idna) (input : Bytes) (hid : ∀ d, HP.IdnaAt idna d)
    (hclean : AdaVerif.Lemmas.BR.bracketOk (ParseSpecial.schemeSpecial input) (ParseSpecial.hostStart input) = true) :
    ParseAgg.parseNoBaseA idna input = (parse idna input none).map (fun u => Agg.layout (UrlRec.toL (UR.recOf u))) := by
  rw [PA.parseNoBaseA_eq idna input hid, PS.parseNoBase_spec idna input hid hclean]
  cases parse idna input none <;> rfl

/-- … and for every input with a base: `parse_url_impl<ada::url>(input, &base)` on a base object that holds a record `b`
    with the record invariants of C19 (`RecInv`, '/'-free path segments) answers exactly `Spec.parse input (some b)` - NO_SCHEME
    (opaque bases accept a lone fragment only), SPECIAL_RELATIVE_OR_AUTHORITY, RELATIVE_SCHEME (inheritance of credentials,
    host, port, path and query, `shorten_path` on the serialised base path, the builder continuing on it), RELATIVE_SLASH,
    and FILE / FILE_SLASH with a `file` base (host and path inheritance, the drive-letter quirks: the starts-with test on
    the text with its query still attached, the base's first segment taken over when it is a normalised drive letter).
    Same side condition and IDNA parameter as without a base; `bracket_condition_plain_base`. -/
theorem parser_with_base_partial (idna : Idna) (b : Url) (hinv : RecInv b = true) (hseg : PP.NoSlash b.path) (input : Bytes)
    (hid : ∀ d, HP.IdnaAt idna d)
    (hclean : AdaVerif.Lemmas.BR.bracketOk (ParseSpecial.hostStartB (UR.recOf b) input).1 (ParseSpecial.hostStartB (UR.recOf b) input).2 = true) :
    ParseSpecial.parseWithBase idna (UR.recOf b) input = PS.outOf (parse idna input (some b)) :=
  PB.machineB_spec idna b ⟨hinv, hseg⟩ input hid hclean

/-- … and the default type with a base: `parse_url_impl<ada::url_aggregator>(input, &base)` on the base object that lays
    out `b` leaves the layout of `Spec.parse input (some b)` (same side condition) -/
theorem aggregator_parser_with_base_partial (idna : Idna) (b : Url) (hinv : RecInv b = true) (hseg : PP.NoSlash b.path)
    (hch : PAB.CredHostOk b) (input : Bytes) (hid : ∀ d, HP.IdnaAt idna d)
    (hclean : AdaVerif.Lemmas.BR.bracketOk (ParseSpecial.hostStartB (UR.recOf b) input).1 (ParseSpecial.hostStartB (UR.recOf b) input).2 = true) :
    ParseAgg.machineBA idna (Agg.layout (UrlRec.toL (UR.recOf b))) input =
      some ((parse idna input (some b)).map (fun u => Agg.layout (UrlRec.toL (UR.recOf u)))) := by
  rw [PAB.machineBA_eq_full idna (UR.recOf b) (PAB.baseRec_of b hinv hseg hch) input hid,
    PB.machineB_spec idna b ⟨hinv, hseg⟩ input hid hclean]
  cases parse idna input (some b) <;> rfl

/-- the API as it is used: parse a base, then parse against it - both types.  Whatever `ada::parse` hands out for the base
    text is a base object that meets every assumption of the with-base theorems (C19's `parse_inv`, `parse_noSlash`,
    `parse_ch`), so the chain needs nothing but the two bracket side conditions and the IDNA parameter:
    `ada::url` - the second parse answers `Spec.parse input (Spec.parse base)`; `ada::url_aggregator` - its buffer and
    offsets are the layout of that record. -/
theorem parser_chain_partial (idna : Idna) (bi input : Bytes) (hid : ∀ d, HP.IdnaAt idna d)
    (hcb : AdaVerif.Lemmas.BR.bracketOk (ParseSpecial.schemeSpecial bi) (ParseSpecial.hostStart bi) = true)
    (hci : ∀ b, parse idna bi none = some b →
      AdaVerif.Lemmas.BR.bracketOk (ParseSpecial.hostStartB (UR.recOf b) input).1 (ParseSpecial.hostStartB (UR.recOf b) input).2 = true) :
    (match ParseSpecial.parseNoBase idna bi with
      | .invalid => parse idna bi none = none
      | .ok rb => ∃ b, parse idna bi none = some b ∧ rb = UR.recOf b ∧
          ParseSpecial.parseWithBase idna rb input = PS.outOf (parse idna input (some b))) ∧
    (match ParseAgg.parseNoBaseA idna bi with
      | none => parse idna bi none = none
      | some ab => ∃ b, parse idna bi none = some b ∧ ab = Agg.layout (UrlRec.toL (UR.recOf b)) ∧
          ParseAgg.machineBA idna ab input = some ((parse idna input (some b)).map (fun u => Agg.layout (UrlRec.toL (UR.recOf u))))) := by
  have h1 := PS.parseNoBase_spec idna bi hid hcb
  have h2 := PA.parseNoBaseA_eq idna bi hid
  rw [h1] at h2
  rw [h1, h2]
  cases hp : parse idna bi none with
  | none => exact ⟨rfl, rfl⟩
  | some b =>
    have hinv := parse_inv idna bi none b (by intro x hx; cases hx) hp
    obtain ⟨hseg, hch⟩ := PAB.parse_ok idna bi b hp
    refine ⟨⟨b, rfl, rfl, ?_⟩, ⟨b, rfl, rfl, ?_⟩⟩
    · exact PB.machineB_spec idna b ⟨hinv, hseg⟩ input hid (hci b hp)
    · exact aggregator_parser_with_base_partial idna b hinv hseg hch input hid (hci b hp)

/-- what a user of the default type sees: after `ada::parse(input)` the buffer of the `url_aggregator` - which is what
    `get_href()` returns - is the Standard's serialisation of the Standard's parse result, byte for byte, and parsing
    fails exactly when the Standard's parser fails. -/
theorem aggregator_href_is_standard_partial (idna : Idna) (input : Bytes) (hid : ∀ d, HP.IdnaAt idna d)
    (hclean : AdaVerif.Lemmas.BR.bracketOk (ParseSpecial.schemeSpecial input) (ParseSpecial.hostStart input) = true) :
    (ParseAgg.parseNoBaseA idna input).map (·.buf) = (parse idna input none).map Url.href := by
  rw [aggregator_parser_no_base_partial idna input hid hclean]
  cases hp : parse idna input none with
  | none => rfl
  | some u =>
    have hinv := parse_inv idna input none u (by intro x hx; cases hx) hp
    have hseg := PV.parse_noSlash idna input u hp
    have ok := AggL.credOk_of_recInv u hinv
    simp only [Option.map_some]
    rw [UR.toL_recOf u ok.hostless (PB.port_lt_of_recInv u hinv) hseg, AggL.href_eq_layout u ok.hostless]

/-- … and of `ada::url`: `get_href()` (fast or general serializer) on the parsed object is the Standard's serialisation -/
theorem url_href_is_standard_partial (idna : Idna) (input : Bytes) (hid : ∀ d, HP.IdnaAt idna d)
    (hclean : AdaVerif.Lemmas.BR.bracketOk (ParseSpecial.schemeSpecial input) (ParseSpecial.hostStart input) = true) (u : Url)
    (hp : parse idna input none = some u) :
    ParseSpecial.parseNoBase idna input = .ok (UR.recOf u) ∧ UrlRec.getHref (UR.recOf u) = u.href := by
  have h1 := PS.parseNoBase_spec idna input hid hclean
  rw [hp] at h1
  refine ⟨h1, ?_⟩
  have hinv := parse_inv idna input none u (by intro x hx; cases hx) hp
  have hseg := PV.parse_noSlash idna input u hp
  have ok := AggL.credOk_of_recInv u hinv
  have g : C04.Good u := ⟨hinv, hseg⟩
  have hrk : C04.RecOk (UR.recOf u) := by
    intro hh
    have : u.host = none := by cases h : u.host <;> simp_all [UR.recOf]
    exact ok.hostless this
  have hgen : UrlRec.getHrefGeneral (UR.recOf u) = u.href := by
    rw [C04.href_eq_layout _ hrk, (C04.view_of_good u g).1, AggL.href_eq_layout u ok.hostless]
  unfold UrlRec.getHref
  split
  · rename_i hf
    rw [C04.fast_eq_general _ hf, hgen]
  · exact hgen

/-- … and `get_origin()`: for a special scheme the tuple origin, "null" for `file` and for schemes that are not special, and
    for `blob:` the origin of the URL in the path - a parse without a base, to which the parser theorem applies (its side
    condition is asked of the path text).  `ada::url`, `Model/ParseSpecial.getOriginR`; run against the real getter on
    every state of C04's histories. -/
theorem url_origin_is_standard_partial (idna : Idna) (u : Url) (hinv : RecInv u = true) (hid : ∀ d, HP.IdnaAt idna d)
    (hclean : u.scheme = bBlob →
      AdaVerif.Lemmas.BR.bracketOk (ParseSpecial.schemeSpecial u.pathSerialized) (ParseSpecial.hostStart u.pathSerialized) = true) :
    ParseSpecial.getOriginR idna (UR.recOf u) = u.origin idna :=
  PB.getOriginR_eq idna u (PB.port_lt_of_recInv u hinv) hid hclean

/-- the side condition holds for every input without a '[', whatever the base object -/
theorem bracket_condition_plain_base (b : UrlRec.Rec) (input : Bytes) (h : (0x5B : UInt8) ∉ input) :
    AdaVerif.Lemmas.BR.bracketOk (ParseSpecial.hostStartB b input).1 (ParseSpecial.hostStartB b input).2 = true :=
  PB.clean_of_no_bracket_base b input h

/-- worked instances with a base (kernel-evaluated): dot segments against an inherited path, a query-only reference, a
    scheme-relative reference of a special scheme, a drive letter kept from a file base, an opaque base -/
example :
    let b : Url := { scheme := ofStr "http", username := ofStr "u", host := some (.domain (ofStr "h")), port := some 81,
                     path := [ofStr "a", ofStr "b", ofStr "c"], query := some (ofStr "z") }
    RecInv b = true ∧ PP.NoSlash b.path ∧
    ParseSpecial.parseWithBase C10.asciiIdna (UR.recOf b) (ofStr "../x y?q#f") =
      .ok { scheme := ofStr "http", special := true, username := ofStr "u", password := [], host := some (ofStr "h"),
            port := some 81, path := ofStr "/a/x%20y", query := some (ofStr "q"), hash := some (ofStr "f"), opq := false } ∧
    ParseSpecial.parseWithBase C10.asciiIdna (UR.recOf b) (ofStr "?q") =
      .ok { scheme := ofStr "http", special := true, username := ofStr "u", password := [], host := some (ofStr "h"),
            port := some 81, path := ofStr "/a/b/c", query := some (ofStr "q"), hash := none, opq := false } ∧
    ParseSpecial.parseWithBase C10.asciiIdna (UR.recOf b) (ofStr "http:\\\\H2:80/p") =
      .ok { scheme := ofStr "http", special := true, username := [], password := [], host := some (ofStr "h2"),
            port := none, path := ofStr "/p", query := none, hash := none, opq := false } := by
  refine ⟨by decide +kernel, ?_, by decide +kernel, by decide +kernel, by decide +kernel⟩
  intro s hs
  simp only [List.mem_cons, List.not_mem_nil, or_false] at hs
  rcases hs with rfl | rfl | rfl <;> decide +kernel
example :
    let b : Url := { scheme := ofStr "file", host := some .empty, path := [ofStr "C:", ofStr "a", ofStr "b"] }
    RecInv b = true ∧
    ParseSpecial.parseWithBase C10.asciiIdna (UR.recOf b) (ofStr "/x") =
      .ok { scheme := ofStr "file", special := true, username := [], password := [], host := some [],
            port := none, path := ofStr "/C:/x", query := none, hash := none, opq := false } ∧
    ParseSpecial.parseWithBase C10.asciiIdna (UR.recOf b) (ofStr "..") =
      .ok { scheme := ofStr "file", special := true, username := [], password := [], host := some [],
            port := none, path := ofStr "/C:/", query := none, hash := none, opq := false } := by decide +kernel
example :
    let b : Url := { scheme := ofStr "mailto", isOpaque := true, opath := ofStr "x@y" }
    RecInv b = true ∧
    ParseSpecial.parseWithBase C10.asciiIdna (UR.recOf b) (ofStr "#f") =
      .ok { scheme := ofStr "mailto", special := false, username := [], password := [], host := none,
            port := none, path := ofStr "x@y", query := none, hash := some (ofStr "f"), opq := true } ∧
    ParseSpecial.parseWithBase C10.asciiIdna (UR.recOf b) (ofStr "x") = .invalid := by decide +kernel

/-- the side condition holds for every input without a '[' -/
theorem bracket_condition_plain (input : Bytes) (h : (0x5B : UInt8) ∉ input) :
    AdaVerif.Lemmas.BR.bracketOk (ParseSpecial.schemeSpecial input) (ParseSpecial.hostStart input) = true :=
  PS.clean_of_no_bracket input h

/-- … and for every input whose scheme is not special (however its brackets are placed) -/
theorem bracket_condition_not_special (input : Bytes) (h : ParseSpecial.schemeSpecial input = false) :
    AdaVerif.Lemmas.BR.bracketOk (ParseSpecial.schemeSpecial input) (ParseSpecial.hostStart input) = true := by
  rw [h]; exact AdaVerif.Lemmas.BR.bracketOk_false _

/-- no side condition for schemes that are not special: `parse_url_impl<ada::url>(input, nullptr)` is `Spec.parse` -/
theorem parser_no_base_not_special (idna : Idna) (input : Bytes) (hid : ∀ d, HP.IdnaAt idna d)
    (hns : ParseSpecial.schemeSpecial input = false) :
    ParseSpecial.parseNoBase idna input = PS.outOf (parse idna input none) :=
  PS.parseNoBase_spec idna input hid (bracket_condition_not_special input hns)

/-- inputs that fail the plain condition `bracketClean` and meet `bracketOk`: a delimiter inside the brackets of a
    leading IPv6 literal, and of a host that is not special - the condition holds, the model fails, and so does `Spec.parse` -/
example : HS.bracketClean true false (ParseSpecial.hostStart (ofStr "http://[1::/2]:80/x")) = false ∧
    AdaVerif.Lemmas.BR.bracketOk (ParseSpecial.schemeSpecial (ofStr "http://[1::/2]:80/x")) (ParseSpecial.hostStart (ofStr "http://[1::/2]:80/x")) = true ∧
    ParseSpecial.parseNoBase C10.asciiIdna (ofStr "http://[1::/2]:80/x") = .invalid ∧
    (parse C10.asciiIdna (ofStr "http://[1::/2]:80/x") none).isNone = true := by decide +kernel
example : ParseSpecial.schemeSpecial (ofStr "foo://a[?]b/") = false ∧
    HS.bracketClean false false (ParseSpecial.hostStart (ofStr "foo://a[?]b/")) = false ∧
    ParseSpecial.parseNoBase C10.asciiIdna (ofStr "foo://a[?]b/") = .invalid ∧
    (parse C10.asciiIdna (ofStr "foo://a[?]b/") none).isNone = true := by decide +kernel

/-- the hypotheses are satisfiable, and the slow route is taken: credentials with two '@', upper-case scheme and host, a
    non-default port, dot segments, query and fragment; an IPv6 host inside brackets; a failure; file URLs; a scheme that is not
    special with an empty host, with an opaque path that ends in a space, with a path only -/
example : AdaVerif.Lemmas.BR.bracketOk true (ParseSpecial.hostStart (ofStr " HtTp://u@s:p@w@EXAMPLE.com:8080/a/../b c?q r#f g")) = true ∧
    ParseSpecial.parseNoBase C10.asciiIdna (ofStr " HtTp://u@s:p@w@EXAMPLE.com:8080/a/../b c?q r#f g") =
      .ok { scheme := ofStr "http", special := true, username := ofStr "u%40s", password := ofStr "p%40w",
            host := some (ofStr "example.com"), port := some 8080, path := ofStr "/b%20c", query := some (ofStr "q%20r"),
            hash := some (ofStr "f%20g"), opq := false } := by decide +kernel
example : AdaVerif.Lemmas.BR.bracketOk true (ParseSpecial.hostStart (ofStr "wss:\\\\[1::0:2]:443/x")) = true ∧
    ParseSpecial.parseNoBase C10.asciiIdna (ofStr "wss:\\\\[1::0:2]:443/x") =
      .ok { scheme := ofStr "wss", special := true, username := [], password := [], host := some (ofStr "[1::2]"),
            port := none, path := ofStr "/x", query := none, hash := none, opq := false } := by decide +kernel
example : ParseSpecial.parseNoBase C10.asciiIdna (ofStr "https://user@:80/") = .invalid ∧
    ParseSpecial.parseNoBase C10.asciiIdna (ofStr "file://LOCALHOST\\C|/../x?q") =
      .ok { scheme := ofStr "file", special := true, username := [], password := [], host := some [],
            port := none, path := ofStr "/C:/x", query := some (ofStr "q"), hash := none, opq := false } ∧
    ParseSpecial.parseNoBase C10.asciiIdna (ofStr "file://C|/a") =
      .ok { scheme := ofStr "file", special := true, username := [], password := [], host := some [],
            port := none, path := ofStr "/C:/a", query := none, hash := none, opq := false } ∧
    ParseSpecial.parseNoBase C10.asciiIdna (ofStr "file://a b/") = .invalid := by decide +kernel
example : ParseSpecial.schemeSpecial (ofStr "foo://?a'b") = false ∧
    ParseSpecial.parseNoBase C10.asciiIdna (ofStr "foo://?a'b") =
      .ok { scheme := ofStr "foo", special := false, username := [], password := [], host := some [],
            port := none, path := [], query := some (ofStr "a'b"), hash := none, opq := false } ∧
    ParseSpecial.parseNoBase C10.asciiIdna (ofStr "foo://u@A%41:81/") =
      .ok { scheme := ofStr "foo", special := false, username := ofStr "u", password := [], host := some (ofStr "A%41"),
            port := some 81, path := ofStr "/", query := none, hash := none, opq := false } ∧
    ParseSpecial.parseNoBase C10.asciiIdna (ofStr "foo://u@:81") = .invalid ∧
    ParseSpecial.parseNoBase C10.asciiIdna (ofStr "foo:a b #x") =
      .ok { scheme := ofStr "foo", special := false, username := [], password := [], host := none,
            port := none, path := ofStr "a b%20", query := none, hash := some (ofStr "x"), opq := true } ∧
    ParseSpecial.parseNoBase C10.asciiIdna (ofStr "foo:/a/../b") =
      .ok { scheme := ofStr "foo", special := false, username := [], password := [], host := none,
            port := none, path := ofStr "/b", query := none, hash := none, opq := false } := by decide +kernel

/-- the hypotheses are satisfiable: the three scheme classes -/
example : PP.TyOf bFile 6 := ⟨by decide, by decide⟩
example : PP.TyOf bHttps 2 := ⟨by decide, by decide⟩
example : PP.TyOf (ofStr "foo") 1 := ⟨by decide +kernel, by decide +kernel⟩
/-- worked instances, one per code path (kernel-evaluated) -/
example : PathPrepared.parsePreparedPath (ofStr "a/b.c/d") 2 (ofStr "/x") = ofStr "/x/a/b.c/d" := by decide +kernel
example : PathPrepared.parsePreparedPath (ofStr "a/../b/./c/..") 2 (ofStr "/x") = ofStr "/x/b/" := by decide +kernel
example : PathPrepared.parsePreparedPath (ofStr "C|/%2E%2e/a b") 6 [] = ofStr "/C:/a%20b" := by decide +kernel

/-- the perfect-hash `get_scheme_type` (hash on length and first byte, one packed 64-bit
    comparison against the generated key table) classifies every byte string exactly like a
    linear search in the list of special schemes. -/
theorem scheme_lookup_correct (s : Bytes) :
    getSchemeType s =
      (if s = bHttp then 0 else if s = bHttps then 2 else if s = bWs then 3 else if s = bFtp then 4
       else if s = bWss then 5 else if s = bFile then 6 else 1) :=
  getSchemeType_eq s

/-- the hash classification agrees with the Spec's notion of "special scheme" -/
theorem scheme_lookup_special (s : Bytes) : (getSchemeType s != 1) = isSpecialScheme s :=
  (Proto.type_facts s).1

/-- the special schemes and their default ports, in the order of `ada::scheme::type` -/
theorem special_scheme_tables :
    Gen.isSpecialList = [[104,116,116,112],[32],[104,116,116,112,115],[119,115],[102,116,112],[119,115,115],[102,105,108,101],[32]] ∧
    Gen.specialPorts = [80, 0, 443, 80, 21, 443, 0, 0] ∧
    (∀ i : Fin 8, (Gen.isSpecialList.getD i.val []) ≠ [32] →
      Spec.defaultPort ((Gen.isSpecialList.getD i.val []).map UInt8.ofNat) =
        (if Gen.specialPorts.getD i.val 0 = 0 then none else some (Gen.specialPorts.getD i.val 0)) ∧
      Spec.isSpecialScheme ((Gen.isSpecialList.getD i.val []).map UInt8.ofNat) = true) := by
  decide +kernel

/-- the generated key table really is the packed names (re-proved on every run) -/
theorem scheme_tables_wellformed :
    Gen.isSpecialList.map toBytes = [bHttp, [0x20], bHttps, bWs, bFtp, bWss, bFile, [0x20]] ∧
    Gen.specialPorts = [80, 0, 443, 80, 21, 443, 0, 0] := ⟨gen_names, special_scheme_tables.2.1⟩

/-- default ports: the table row of each special scheme is the Standard's default port -/
theorem special_ports_correct :
    (tget Gen.specialPorts (getSchemeType bHttp) = 80) ∧ (tget Gen.specialPorts (getSchemeType bHttps) = 443) ∧
    (tget Gen.specialPorts (getSchemeType bWs) = 80) ∧ (tget Gen.specialPorts (getSchemeType bWss) = 443) ∧
    (tget Gen.specialPorts (getSchemeType bFtp) = 21) ∧ (tget Gen.specialPorts (getSchemeType bFile) = 0) := by
  obtain ⟨a, b, c, d, e, f⟩ := getSchemeType_names
  rw [a, b, c, d, e, f]; decide

/-- cutting at a separator loses nothing: `before ++ sep :: after` is the input -/
theorem cutAt_spec (sep : UInt8) (s : Bytes) :
    match cutAt sep s with
    | (a, some r) => s = a ++ sep :: r ∧ sep ∉ a
    | (a, none) => s = a ∧ sep ∉ a := by
  have h := Cut.cutAt_split sep s
  rcases hc : cutAt sep s with ⟨a, _ | r⟩
  · simpa [hc, Cut.sfx] using h
  · simpa [hc, Cut.sfx] using h

/-- `is_alnum_plus_table` (the scheme scanner) is the Standard's scheme code points -/
theorem alnum_plus_table : ∀ b : UInt8, (tget Gen.alnumPlusTable b.toNat != 0) = isSchemeChar b :=
  FS.alnumPlus_eq

/-- the double-dot spellings the path builder compares against are the Standard's four
    (".." and its percent-encoded forms, lower-cased) -/
theorem double_dot_table :
    Gen.doubleDotTable = [[0x2E, 0x2E], [0x25, 0x32, 0x65, 0x2E], [0x2E, 0x25, 0x32, 0x65], [0x25, 0x32, 0x65, 0x25, 0x32, 0x65]] :=
  PP.doubleDotTable_eq

end AdaVerif.Props.C01
