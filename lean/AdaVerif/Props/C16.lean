import AdaVerif.Lemmas.Punycode
import AdaVerif.Spec.Host
import AdaVerif.Lemmas.PunyRound
import AdaVerif.Lemmas.Ascii
/-
C16 — IDNA results are stable under equivalent spellings and round trips.

The data-dependent laws (canonical equivalence, ignored / folded code points, idempotence, the
ToASCII ∘ ToUnicode ∘ ToASCII round trip) are decided on the implementation for spellings generated
from the Unicode data itself (checks/props/c16.py).  Proved here: the parts that hold for every
table - the Punycode round trip for every list of code points, Punycode output is lower-case ASCII, the ASCII branch
gives lower case and is case-insensitive.
-/
namespace AdaVerif.Props.C16
open AdaVerif AdaVerif.Model.Puny AdaVerif.Lemmas.Puny

/-- every Punycode digit the encoder can emit is a lower-case letter or a decimal digit -/
theorem punycode_output_lowercase : ∀ d : Fin 36,
    (97 ≤ (digitToChar d.val).toNat ∧ (digitToChar d.val).toNat ≤ 122) ∨
    (48 ≤ (digitToChar d.val).toNat ∧ (digitToChar d.val).toNat ≤ 57) := digit_is_lower_alnum

theorem lower_ascii : ∀ b : UInt8, b.toNat < 0x80 → (toLowerByte b).toNat < 0x80 := Lemmas.Lower.ascii

/-- the ASCII branch of domain-to-ASCII (no `xn--` label): the result is the input in lower case, with no
    upper-case letter left -/
theorem ascii_branch_idempotent (idna : Spec.Idna) (d r : Bytes) (h1 : Spec.isAsciiBytes d = true)
    (h2 : (Spec.splitOn 0x2E d).any Spec.startsWithXn = false) (hr : Spec.domainToAscii idna d = some r) :
    r = d.map toLowerByte ∧ r.all (fun b => !isAsciiUpper b) = true := by
  unfold Spec.domainToAscii at hr
  simp only [h1, h2, Bool.not_false, Bool.and_self, ↓reduceIte] at hr
  split at hr
  · cases hr
  · injection hr with hr; subst hr
    refine ⟨rfl, ?_⟩
    simp only [List.all_map, List.all_eq_true, Function.comp]
    intro b _; simp [Lemmas.Lower.not_upper b]

/-- ASCII case does not matter on the ASCII branch -/
theorem ascii_branch_case_insensitive (d : Bytes) : (d.map toLowerByte).map toLowerByte = d.map toLowerByte := by
  simp [List.map_map, Function.comp_def, Lemmas.Lower.idem]

/- Punycode round trip.

`Model/Punycode.lean` transcribes `utf32_to_punycode` and `punycode_to_utf32` (bias adaptation, generalized
variable-length integers, the insertion loop, every int32 guard) and is run against the real functions on every check.
The round trip is a theorem for every list of code points, not only for the generated ones (`Lemmas/PunyRound.lean`): the encoder's scan for the value `m` and the decoder stay in step - the decoder's list is what lies below
`m` plus the occurrences of `m` already passed, and `i + delta = (m - n) * (h + 1) + (number of those in front of the
scan point)`, so every delta lands the insertion exactly at the scan point; both sides feed the same arguments to
`adapt`. -/

/-- ToASCII∘ToUnicode core: whatever `punycode_to_utf32` answers on the output of `utf32_to_punycode` is the
    original list of code points (labels of up to 2^31-1 code points) -/
theorem punycode_roundtrip (s : List Nat) (e : Bytes) (r : List Nat) (hs : s.length ≤ intMax) (he : e.length < intMax)
    (henc : encode s = some e) (hdec : decode e = some r) : r = s :=
  roundtrip s e r hs he henc hdec

/-- ... and the decoder's arithmetic, its int32 guards and the "xn--" refusal aside, always gives the list back -/
theorem punycode_roundtrip_arithmetic (s : List Nat) (e : Bytes) (hs : s.length ≤ intMax) (henc : encode s = some e) :
    decodeU e = some s :=
  roundtripU s e hs henc

/-- the real decoder only ever rejects: when it answers, the guard-free arithmetic gives the same answer -/
theorem punycode_guards_only_reject (e : Bytes) (r : List Nat) (he : e.length < intMax) (h : decode e = some r) :
    decodeU e = some r :=
  decode_sound e r he h

open AdaVerif.Model.Puny in
example : (encode [0x4ED6, 0x4EEC, 0x70BA, 0x4EC0, 0x4E48, 0x4E0D, 0x8BF4, 0x4E2D, 0x6587]).bind decode =
    some [0x4ED6, 0x4EEC, 0x70BA, 0x4EC0, 0x4E48, 0x4E0D, 0x8BF4, 0x4E2D, 0x6587] := by decide +kernel

end AdaVerif.Props.C16
