import AdaVerif.Lemmas.FormDecode
/-
C11 — Percent-encoding uses exactly the Standard's code-point sets.

Property theorems only (helper lemmas are in Lemmas/).  Every theorem mentioning `Gen.*`
is re-proved against the tables extracted from /repo's current sources on every run.
-/
namespace AdaVerif.Props.C11
open AdaVerif AdaVerif.Model AdaVerif.Lemmas

/-- the seven bitmaps are the Standard's sets, for all 256 byte values -/
theorem c0_table : ∀ b : UInt8, bitAt Gen.c0Set b = Spec.inC0 b := congrFun bitAt_c0Set
theorem fragment_table : ∀ b : UInt8, bitAt Gen.fragmentSet b = Spec.inFragment b := congrFun bitAt_fragmentSet
theorem query_table : ∀ b : UInt8, bitAt Gen.querySet b = Spec.inQuery b := congrFun bitAt_querySet
theorem specialQuery_table : ∀ b : UInt8, bitAt Gen.specialQuerySet b = Spec.inSpecialQuery b :=
  congrFun bitAt_specialQuerySet
theorem path_table : ∀ b : UInt8, bitAt Gen.pathSet b = Spec.inPath b := congrFun bitAt_pathSet
theorem userinfo_table : ∀ b : UInt8, bitAt Gen.userinfoSet b = Spec.inUserinfo b := congrFun bitAt_userinfoSet
/-- the form bitmap is the Standard's set minus space (space is written as `+` by the serializer) -/
theorem form_table : ∀ b : UInt8, bitAt Gen.formSet b = (Spec.inForm b && b != 0x20) := bitAt_formSet

/-- the bitmaps have exactly 32 bytes: no lookup `a[i >> 3]` leaves the array -/
theorem tables_sized :
    Gen.c0Set.length = 32 ∧ Gen.fragmentSet.length = 32 ∧ Gen.querySet.length = 32 ∧
    Gen.specialQuerySet.length = 32 ∧ Gen.pathSet.length = 32 ∧ Gen.userinfoSet.length = 32 ∧
    Gen.formSet.length = 32 ∧ Gen.hexTable.length = 1024 := by decide +kernel

/-- an escaped byte is `%` + two upper-case hex digits (all 256 rows of `hex[]`) -/
theorem hex_rows : ∀ b : UInt8, hexRow b = [0x25, hexUpper (b.toNat / 16), hexUpper (b.toNat % 16)] :=
  hexRow_eq

/-- a byte is escaped iff it is in the set, every other byte is copied verbatim -/
theorem encoder_is_standard (set : List Nat) (s : Bytes) :
    percentEncode set s = s.flatMap (fun b => if bitAt set b then Spec.pctByte b else [b]) :=
  percentEncode_eq set s

theorem encoder_into_is_standard (app : Bool) (set : List Nat) (s out : Bytes) :
    match percentEncodeInto app set s out with
    | none => Spec.percentEncode (bitAt set) s = s
    | some o => o = (if app then out else []) ++ Spec.percentEncode (bitAt set) s := by
  cases h : percentEncodeInto app set s out with
  | none => exact percentEncodeInto_none app set s out h
  | some o => exact percentEncodeInto_some app set s out o h

theorem encoder_from_index_is_standard (set : List Nat) (s : Bytes) :
    percentEncodeFrom set s (percentEncodeIndex set 0 s) = Spec.percentEncode (bitAt set) s := by
  rw [percentEncodeIndex_eq, Nat.zero_add]
  exact percentEncodeFrom_eq set s _ (spec_take_findFirst set s)

/-- `percent_encode_index` is the index of the first byte in the set, or the length -/
theorem index_is_first (set : List Nat) (s : Bytes) :
    percentEncodeIndex set 0 s = findFirst set s := by
  rw [percentEncodeIndex_eq, Nat.zero_add]

/-- with the bitmaps: e.g. the path encoder escapes exactly the Standard's path set. -/
theorem path_encoder (s : Bytes) : percentEncode Gen.pathSet s = Spec.percentEncode Spec.inPath s := by
  rw [percentEncode_eq, bitAt_pathSet]
theorem userinfo_encoder (s : Bytes) :
    percentEncode Gen.userinfoSet s = Spec.percentEncode Spec.inUserinfo s := by
  rw [percentEncode_eq, bitAt_userinfoSet]
theorem query_encoder (s : Bytes) : percentEncode Gen.querySet s = Spec.percentEncode Spec.inQuery s := by
  rw [percentEncode_eq, bitAt_querySet]
theorem specialQuery_encoder (s : Bytes) :
    percentEncode Gen.specialQuerySet s = Spec.percentEncode Spec.inSpecialQuery s := by
  rw [percentEncode_eq, bitAt_specialQuerySet]
theorem fragment_encoder (s : Bytes) :
    percentEncode Gen.fragmentSet s = Spec.percentEncode Spec.inFragment s := by
  rw [percentEncode_eq, bitAt_fragmentSet]
theorem c0_encoder (s : Bytes) : percentEncode Gen.c0Set s = Spec.percentEncode Spec.inC0 s := by
  rw [percentEncode_eq, bitAt_c0Set]

/-- no set escapes a hex digit (needed by the round trip; all eight Standard sets) -/
theorem sets_spare_hex : ∀ b : UInt8, isAsciiHexDigit b = true →
    Spec.inForm b = false := hex_not_inForm

theorem set_mono : ∀ b : UInt8,
    (Spec.inC0 b → Spec.inFragment b) ∧ (Spec.inC0 b → Spec.inQuery b) ∧
    (Spec.inQuery b → Spec.inSpecialQuery b) ∧ (Spec.inQuery b → Spec.inPath b) ∧
    (Spec.inPath b → Spec.inUserinfo b) ∧ (Spec.inUserinfo b → Spec.inComponent b) ∧
    (Spec.inComponent b → Spec.inForm b) ∧ (Spec.inFragment b → Spec.inForm b) ∧
    (Spec.inSpecialQuery b → Spec.inForm b) := set_chain

/-- the C++ `percent_decode` loop is the Standard's percent-decode -/
theorem decoder_is_standard (s : Bytes) : percentDecode s (some 0) = Spec.percentDecode s :=
  decodeLoop_eq s

/-- decoding from `first_percent` = decoding everything, when `first_percent` really is the
    first `%` (no `%` before it) -/
theorem decoder_from_first_percent (s : Bytes) (i : Nat) (h : ∀ b ∈ s.take i, b ≠ 0x25) :
    percentDecode s (some i) = Spec.percentDecode s := by
  simp only [percentDecode, decodeLoop_eq]
  rw [← decode_append_plain _ _ h, List.take_append_drop]

/-- URL component sets (those without `%`): decode ∘ encode = decode -/
theorem decode_encode_url_sets (S : Spec.EncodeSet) (hS : Spec.inSet S 0x25 = false) (s : Bytes) :
    Spec.percentDecode (Spec.percentEncode (Spec.inSet S) s) = Spec.percentDecode s :=
  decode_encode_noPct _ (hex_not_inSet S) hS s

/-- … in particular the original comes back whenever it contains no well-formed escape -/
theorem decode_encode_url_sets_id (S : Spec.EncodeSet) (hS : Spec.inSet S 0x25 = false) (s : Bytes)
    (h : hasEscape s = false) :
    Spec.percentDecode (Spec.percentEncode (Spec.inSet S) s) = s := by
  rw [decode_encode_url_sets S hS, decode_noEscape s h]

/-- component / form sets (those containing `%`): decode ∘ encode = id for every byte string -/
theorem decode_encode_component_sets (S : Spec.EncodeSet) (hS : Spec.inSet S 0x25 = true) (s : Bytes) :
    Spec.percentDecode (Spec.percentEncode (Spec.inSet S) s) = s :=
  decode_encode_withPct _ (hex_not_inSet S) hS s

theorem which_sets_have_pct :
    Spec.inSet .c0 0x25 = false ∧ Spec.inSet .fragment 0x25 = false ∧ Spec.inSet .query 0x25 = false ∧
    Spec.inSet .specialQuery 0x25 = false ∧ Spec.inSet .path 0x25 = false ∧
    Spec.inSet .userinfo 0x25 = false ∧ Spec.inSet .component 0x25 = true ∧
    Spec.inSet .form 0x25 = true := by decide

theorem malformed_literal (s : Bytes) (h : hasEscape s = false) : Spec.percentDecode s = s :=
  decode_noEscape s h

/-- the hand-optimised `form_urlencoded_decode` = replace `+` then percent-decode -/
theorem form_decoder_is_standard (s : Bytes) : formDecode s = Spec.formDecode s := formDecode_eq s

/-- `path_signature_table`: bit 1 = needs path encoding, 8/4/2 flag exactly `%`, `.`, `\` -/
theorem path_signature_table_ok : ∀ b : UInt8,
    let v := tget Gen.pathSignatureTable b.toNat
    (v &&& 1 == 1) = Spec.inPath b ∧ (v &&& 8 == 8) = (b == 0x25) ∧ (v &&& 4 == 4) = (b == 0x2E) ∧
    (v &&& 2 == 2) = (b == 0x5C) ∧ v < 16 :=
  forall_tget (T := Gen.pathSignatureTable)
    (Q := fun b v => (v &&& 1 == 1) = Spec.inPath b ∧ (v &&& 8 == 8) = (b == 0x25) ∧ (v &&& 4 == 4) = (b == 0x2E) ∧
      (v &&& 2 == 2) = (b == 0x5C) ∧ v < 16)
    (by decide +kernel) (by decide +kernel)

/-- fast-path class 0 in `k_rest` ⇒ the byte needs no encoding in path, special-query and
    fragment, and is none of `%`, `\`, `?`, `#` -/
theorem k_rest_sound : ∀ b : UInt8, tget Gen.kRest b.toNat = 0 →
    Spec.inPath b = false ∧ Spec.inSpecialQuery b = false ∧ Spec.inFragment b = false ∧
    b ≠ 0x25 ∧ b ≠ 0x5C ∧ b ≠ 0x3F ∧ b ≠ 0x23 := fun b => (kRest_spec b).1

theorem k_rest_delims : ∀ b : UInt8, tget Gen.kRest b.toNat = 1 ↔ (b = 0x3F ∨ b = 0x23) := fun b => (kRest_spec b).2

/-- fast-path class 0 in `k_host_class` ⇒ printable ASCII, not a forbidden domain code point,
    not `%`; class 1 is exactly `/ ? #` -/
theorem k_host_class_sound : ∀ b : UInt8,
    (tget Gen.kHostClass b.toNat = 0 →
      0x21 ≤ b.toNat ∧ b.toNat ≤ 0x7E ∧ tget Gen.forbiddenDomainTable b.toNat = 0 ∧ b ≠ 0x25) ∧
    (tget Gen.kHostClass b.toNat = 1 ↔ (b = 0x2F ∨ b = 0x3F ∨ b = 0x23)) :=
  forall_tget (T := Gen.kHostClass)
    (Q := fun b v => (v = 0 →
        0x21 ≤ b.toNat ∧ b.toNat ≤ 0x7E ∧ tget Gen.forbiddenDomainTable b.toNat = 0 ∧ b ≠ 0x25) ∧
      (v = 1 ↔ (b = 0x2F ∨ b = 0x3F ∨ b = 0x23)))
    (by decide +kernel) (by decide +kernel)

/-- the three hex-digit decoders agree on every hex digit, and their indices are in range -/
theorem hex_decoders_agree : ∀ b : UInt8, isAsciiHexDigit b = true →
    hexToBinary b = hexVal b ∧ unhex b = hexVal b ∧ b.toNat - 48 < Gen.hexToBinaryTable.length :=
  fun b h => ⟨hexToBinary_eq b h, (unhex_spec b).1 h, hexToBinary_index b h⟩

-- concrete instances of the hypotheses and a worked example

example : percentEncode Gen.pathSet (ofStr "a b?{%41}") = ofStr "a%20b%3F%7B%41%7D" := by decide +kernel
example : Spec.percentDecode (ofStr "a%20b%3f%zz%4") = ofStr "a b?%zz%4" := by decide +kernel
example : hasEscape (ofStr "100% %zz %4") = false := by decide +kernel
example : formDecode (ofStr "a+b%2Bc%") = ofStr "a b+c%" := by decide +kernel

end AdaVerif.Props.C11
