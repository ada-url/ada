import AdaVerif.Lemmas.Punycode
import AdaVerif.Lemmas.HostFixed
/-
C06 — IDNA processing equals UTS #46 (Unicode 17) under the URL Standard's options.

Oracle limits, stated plainly (DESIGN §5 C06): there is no Unicode 17 data in this sandbox.  The
mapping / normalization / validity tables are therefore compared with what *is* available
(UTS46 15.1 mapping table, Python 3.13 unicodedata 15.1, RFC 3492 codec, WPT vectors) by
checks/props/c06.py, and a digest pins the data of the current tree.  The Lean part proves the
algorithmic core that does not depend on data: Punycode's generalized variable-length integers,
its digits, its int32 guards, and the URL Standard's ASCII carve-out.
-/
namespace AdaVerif.Props.C06
open AdaVerif AdaVerif.Model.Puny AdaVerif.Lemmas.Puny

/-- RFC 3492 §5: digit values 0..35 ↔ `a..z 0..9`, both directions, all 36 digits -/
theorem punycode_digits_roundtrip : ∀ d : Fin 36, charToDigit (digitToChar d.val) = some d.val :=
  fun d => digit_rt d.val d.isLt

/-- RFC 3492 §3.3: thresholds stay in `[tmin, tmax]` for every position and bias -/
theorem punycode_threshold_range (k bias : Nat) : 1 ≤ threshold k bias ∧ threshold k bias ≤ 26 :=
  threshold_range k bias

/-- RFC 3492 §3.3 generalized variable-length integers: decoding what the encoder emitted for a
    delta `q` yields exactly `q` (weighted by `w`) and consumes exactly those digits - for every
    delta, every bias and every digit position -/
theorem punycode_varint_roundtrip (bias f q k i w : Nat) (rest : Bytes) (hq : q < 10 ^ f) :
    decodeIntU bias (f + 1) (encodeInt bias (f + 1) q k ++ rest) i w k = some (i + q * w, rest) :=
  varint_roundtrip bias (f + 1) f q k i w rest hq (encodeInt_length_le bias (f + 1) q k)

/-- the decoder's int32 overflow guards only ever reject: when it answers, the answer is the exact
    arithmetic value and fits in a signed 32-bit integer (no signed overflow, property C02 too) -/
theorem punycode_guards_sound (bias f : Nat) (input : Bytes) (i w k : Nat) (r : Nat × Bytes) (hw : 0 < w)
    (hi : i ≤ intMax) (h : decodeInt bias f input i w k = some r) :
    decodeIntU bias f input i w k = some r ∧ r.1 ≤ 0x7fffffff :=
  guards_only_reject bias f input i w k r hw hi h

theorem punycode_weight_fits (w t : Nat) (h : ¬ (w > intMax / (base - t))) : w * (base - t) ≤ 0x7fffffff :=
  weight_fits w t h

theorem punycode_encoder_delta_fits (m n d h : Nat) (hd : d ≤ intMax) (hg : ¬ ((m - n) > (intMax - d) / (h + 1))) :
    d + (m - n) * (h + 1) ≤ 0x7fffffff := encoder_delta_fits m n d h hd hg

/-- the URL Standard's carve-out: an all-ASCII domain without an `xn--` label is simply lower-cased,
    whatever the IDNA implementation is -/
theorem ascii_carve_out (idna : Spec.Idna) (d : Bytes) (h1 : Spec.isAsciiBytes d = true)
    (h2 : (Spec.splitOn 0x2E d).any Spec.startsWithXn = false) (hne : d ≠ []) :
    Spec.domainToAscii idna d = some (d.map toLowerByte) :=
  Lemmas.domainToAscii_ascii idna d h1 h2 hne

/-- RFC 3492 §7.1 sample strings: the model reproduces them (and the driver runs the same
    definitions against the C++) -/
example : encode [0x62, 0xFC, 0x63, 0x68, 0x65, 0x72] = some (ofStr "bcher-kva") := by decide +kernel
example : decode (ofStr "bcher-kva") = some [0x62, 0xFC, 0x63, 0x68, 0x65, 0x72] := by decide +kernel
example : encode [0x864E, 0x575D, 0x80EB] = some (ofStr "mfsy08gftd") := by decide +kernel

end AdaVerif.Props.C06
