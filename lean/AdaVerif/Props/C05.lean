import AdaVerif.Lemmas.ParseCanon
/-
C05 — Serialization is a parse fixed point and plain ASCII.

Proved here (all byte strings): every encoded component is printable ASCII, re-encoding an encoded
component is the identity, IPv4 hosts re-parse to themselves, a non-opaque path is empty or begins
with '/', and -- the property itself -- `fixed_point`: for every input and every base obtained by parsing,
a successful parse yields a record `u` with `Spec.parse (href u) none = some u` (identical record, hence
identical href and components), and `href_plain_ascii`: every byte of that href is in 0x21..0x7E except
spaces inside an opaque path, never at the end.  The proof goes through the canonical form
`Lemmas.FP.Canon` (Lemmas/FixedPoint.lean: canonical records are fixed points; Lemmas/ParseCanon.lean: the
parser only returns canonical records).  The IDNA step is a parameter of the Spec; the theorems assume
`IdnaStable` (UTS46 ToASCII returns ASCII that domain-to-ASCII maps to itself) -- for the implementation
that assumption is what C06/C16 check, and the known finding about the 16384-byte cap is exactly a
failure of it.  The implementation is tied to the Spec by C01's correspondence and is itself re-parsed
for every generated (input, base) in checks/props/c05.py.
-/
namespace AdaVerif.Props.C05
open AdaVerif AdaVerif.Spec AdaVerif.Lemmas

theorem sets_contain_c0 : ∀ b : UInt8, inC0 b = true →
    inFragment b = true ∧ inQuery b = true ∧ inSpecialQuery b = true ∧ inPath b = true ∧ inUserinfo b = true :=
  fun _ => c0_subset

/-- credentials, path segments, queries and fragments are printable ASCII without space -/
theorem userinfo_printable (s : Bytes) : (percentEncode inUserinfo s).all printable = true :=
  percentEncode_printable _ (fun b h => (sets_contain_c0 b h).2.2.2.2) (by decide) s
theorem path_segment_printable (s : Bytes) : (percentEncode inPath s).all printable = true :=
  percentEncode_printable _ (fun b h => (sets_contain_c0 b h).2.2.2.1) (by decide) s
theorem query_printable (sp : Bool) (s : Bytes) : (encodeQuery sp s).all printable = true := by
  unfold encodeQuery
  split
  · exact percentEncode_printable _ (fun b h => (sets_contain_c0 b h).2.2.1) (by decide) s
  · exact percentEncode_printable _ (fun b h => (sets_contain_c0 b h).2.1) (by decide) s
theorem fragment_printable (s : Bytes) : (percentEncode inFragment s).all printable = true :=
  percentEncode_printable _ (fun b h => (sets_contain_c0 b h).1) (by decide) s
/-- opaque paths and opaque hosts: printable ASCII or space -/
theorem opaque_printable (s : Bytes) : (percentEncode inC0 s).all printableSp = true :=
  percentEncode_printableSp _ (fun _ h => h) s

/-- the opaque path state never leaves a space directly before `?` / `#` -/
theorem opaque_path_no_trailing_space (pre : Bytes) :
    (opaquePathState pre true).getLast? ≠ some 0x20 := by
  unfold opaquePathState
  simp only
  split
  · simp
  · rename_i hl
    exact percentEncode_last _ _ (fun e => hl e)

/-- re-encoding an encoded component changes nothing (sets without `%`) -/
theorem reencode_is_identity (S : EncodeSet) (hS : inSet S 0x25 = false) (s : Bytes) :
    percentEncode (inSet S) (percentEncode (inSet S) s) = percentEncode (inSet S) s := by
  apply percentEncode_idem
  intro b hb
  have f := HC.pctb_facts b hb
  cases S
  · exact f.1
  · exact f.2.1
  · exact f.2.2.1
  · exact f.2.2.2.1
  · exact f.2.2.2.2.1
  · exact f.2.2.2.2.2.1
  · cases hS
  · cases hS

/-- IPv4 hosts: the serialized form re-parses to the same address -/
theorem ipv4_host_fixed (a : Nat) (ha : a < 2 ^ 32) :
    endsInANumber (ipv4Serialize a) = true ∧ ipv4Parse (ipv4Serialize a) = some a :=
  ⟨ipv4_endsInANumber a, ipv4_roundtrip a (by simpa using ha)⟩

/-- hosts are fixed points of serialise-then-parse: every IPv4 address (special URLs), every IPv6
    address (any URL) and every encoded opaque host (non-special URLs) is returned unchanged by the host
    parser applied to its serialisation -/
theorem host_reparse_fixed (idna : Idna) :
    (∀ a, a < 4294967296 → hostParse idna (Host.serialize (.ipv4 a)) false = some (.ipv4 a)) ∧
    (∀ p : List Nat, p.length = 8 → (∀ x ∈ p, x < 65536) → ∀ opq, hostParse idna (Host.serialize (.ipv6 p)) opq = some (.ipv6 p)) ∧
    (∀ o : Bytes, o ≠ [] → o.head? ≠ some 0x5B → (percentEncode inC0 o).any isForbiddenHost = false →
      hostParse idna (Host.serialize (.opaqueHost (percentEncode inC0 o))) true = some (.opaqueHost (percentEncode inC0 o))) :=
  ⟨Lemmas.ipv4_host_fixed idna, fun p hl hb opq => ipv6_host_fixed idna p hl hb opq,
   opaque_host_fixed idna⟩

/-- a non-opaque path is empty or begins with '/' (so the serializer is unambiguous) -/
theorem path_begins_with_slash (u : Url) (h : u.isOpaque = false) :
    u.pathSerialized = [] ∨ u.pathSerialized.head? = some 0x2F := pathSerialized_shape u h

/-- schemes are lower-case in every parse result, hence unchanged by re-parsing's lower-casing -/
theorem scheme_lower_fixed (idna : Idna) (input : Bytes) (u : Url) (h : parse idna input none = some u) :
    schemeOk u.scheme = true :=
  schemeOk_of_recinv u (parse_inv idna input none u (fun _ hb => by cases hb) h)

/-- the fixed-point statement of C05: every successful parse, without a base or against a base that was itself
    obtained by parsing, re-parses from its href to the identical record -/
def fixed_point_statement (idna : Idna) : Prop :=
  ∀ input base u, (∀ b, base = some b → ∃ bi, parse idna bi none = some b) →
    parse idna input base = some u → parse idna u.href none = some u

open AdaVerif.Lemmas.FP AdaVerif.Lemmas.HC AdaVerif.Lemmas.PC in
theorem parsed_base_canonical (idna : Idna) (hst : IdnaStable idna) (base : Option Url)
    (hb : ∀ b, base = some b → ∃ bi, parse idna bi none = some b) : ∀ b, base = some b → Canon idna b := by
  intro b hbe
  obtain ⟨bi, hbi⟩ := hb b hbe
  exact parse_can idna hst bi none b (fun _ h => by cases h) hbi

open AdaVerif.Lemmas.FP AdaVerif.Lemmas.HC AdaVerif.Lemmas.PC in
/-- the property: serialization is a parse fixed point, for all (input, base) pairs -/
theorem fixed_point (idna : Idna) (hst : IdnaStable idna) : fixed_point_statement idna := by
  intro input base u hb h
  exact parse_href_canon idna u (parse_can idna hst input base u (parsed_base_canonical idna hst base hb) h)

open AdaVerif.Lemmas.FP AdaVerif.Lemmas.HC AdaVerif.Lemmas.PC in
/-- the same, one level up: a URL parsed against the href of a parsed URL is again a fixed point, and so on for
    any chain of bases (each record is canonical, so it can serve as the next base) -/
theorem fixed_point_canonical_base (idna : Idna) (hst : IdnaStable idna) (input : Bytes) (b u : Url) (hb : Canon idna b)
    (h : parse idna input (some b) = some u) : Canon idna u ∧ parse idna u.href none = some u := by
  have hc := parse_can idna hst input (some b) u (fun b' e => by injection e with e; subst e; exact hb) h
  exact ⟨hc, parse_href_canon idna u hc⟩

open AdaVerif.Lemmas.FP AdaVerif.Lemmas.HC AdaVerif.Lemmas.PC in
/-- the href of every parse result is plain ASCII 0x21..0x7E, except that a space may occur
    inside an opaque path, and it never ends in a space (`bad b = false` is `0x21 ≤ b ≤ 0x7E`) -/
theorem href_plain_ascii (idna : Idna) (hst : IdnaStable idna) (input : Bytes) (base : Option Url) (u : Url)
    (hb : ∀ b, base = some b → ∃ bi, parse idna bi none = some b) (h : parse idna input base = some u) :
    (∀ b ∈ u.href, bad b = false ∨ (b = 0x20 ∧ u.isOpaque = true ∧ b ∈ u.opath)) ∧
    (∀ l, u.href.getLast? = some l → bad l = false) :=
  href_printable idna u (parse_can idna hst input base u (parsed_base_canonical idna hst base hb) h)

theorem bad_iff_not_printable : ∀ b : UInt8, AdaVerif.Lemmas.FP.bad b = !printable b := by
  apply forall_uint8_of_fin; decide +kernel

def noIdna : Idna := ⟨fun _ => none⟩
/-- the hypothesis of the theorems is satisfiable: an IDNA step that refuses everything is stable -/
theorem noIdna_stable : AdaVerif.Lemmas.HC.IdnaStable noIdna := by
  intro d r h; cases h
example : fixed_point_statement noIdna := fixed_point noIdna noIdna_stable
example : (parse noIdna (ofStr "web+demo:/.//not-a-host/") none).map Url.href = some (ofStr "web+demo:/.//not-a-host/") := by
  decide +kernel
example : (parse noIdna (ofStr "a:b #f") none).map Url.href = some (ofStr "a:b%20#f") := by decide +kernel
example : (parse noIdna (ofStr "http://0x7f.1/%2e%2E/x y?'") none).map Url.href = some (ofStr "http://127.0.0.1/x%20y?%27") := by
  decide +kernel
example : (do let u ← parse noIdna (ofStr "http://0x7f.1/%2e%2E/x y?'") none; parse noIdna u.href none).map Url.href
    = some (ofStr "http://127.0.0.1/x%20y?%27") := by decide +kernel

end AdaVerif.Props.C05
