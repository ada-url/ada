import AdaVerif.Gen.InitProtocol
import AdaVerif.Lemmas.InitProtocol
/-
C13 — Thread-safe, including the first IDNA use and the global length limit.

`Gen/InitProtocol.lean` is re-extracted from src/ada_idna.cpp and src/implementation.cpp on every
run: the atomic operations of ensure_tables()/tables_are_ready() with their memory orders, the
plain pointer stores in program order, the accesses to the length limit.  `gen_is_expected` checks
that the source still has the shape of `Model.Init.expected`; the safety theorem is proved about
that configuration for every interleaving, any number of threads and any spin limit.
What the model cannot exhibit: the hardware memory model and the real scheduler (x86-TSO cannot
show a release/acquire violation); the TSan runs of checks/props/c13.py are supporting exploration.
-/
namespace AdaVerif.Props.C13
open AdaVerif.Model.Init AdaVerif.Lemmas.Init

def ordOf (s : String) : Option Ord :=
  match s with
  | "relaxed" => some .relaxed | "acquire" => some .acquire | "release" => some .release
  | "acq_rel" => some .acqRel | "seq_cst" => some .seqCst | _ => none

/-- the configuration the current source has, read from the generated IR -/
def genConfig (limit : Nat) : Option Config := do
  let fl ← ordOf Gen.Init.firstLoadOrder
  let cs ← ordOf Gen.Init.casSuccessOrder
  let cf ← ordOf Gen.Init.casFailureOrder
  let rs ← ordOf Gen.Init.readyStoreOrder
  let sl ← ordOf Gen.Init.spinLoadOrder
  let fs ← (Gen.Init.failStoreOrders.mapM ordOf)
  let fsOrd := if fs.all (· == Ord.release) then Ord.release else Ord.relaxed
  some { firstLoad := fl, casSuccess := cs, casFailure := cf,
         casExpectsUninit := Gen.Init.casExpected == Gen.Init.initialValue && Gen.Init.initialValue == "kTablesUninit",
         readyStore := rs, failStore := fsOrd, spinLoad := sl,
         readyAfterWrites := Gen.Init.readyAfterAllPlain &&
           Gen.Init.pointerGlobals.all (fun g => Gen.Init.plainStores.contains g),
         spinLimit := limit }

/-- the source has exactly the protocol the theorems are about -/
theorem gen_is_expected (limit : Nat) : genConfig limit = some (expected limit) := by
  simp [genConfig, expected, ordOf, Gen.Init.firstLoadOrder, Gen.Init.casSuccessOrder, Gen.Init.casFailureOrder,
    Gen.Init.readyStoreOrder, Gen.Init.spinLoadOrder, Gen.Init.failStoreOrders, Gen.Init.casExpected,
    Gen.Init.initialValue, Gen.Init.readyAfterAllPlain, Gen.Init.pointerGlobals, Gen.Init.plainStores]

/-- further shape facts the model relies on: the four state constants, CAS to IN_PROGRESS, waiters
    return only on READY/FAILED, the fast check is an acquire load compared with READY, and nothing
    else touches the atomic -/
theorem gen_shape :
    Gen.Init.stateConsts = [("kTablesUninit", 0), ("kTablesInProgress", 1), ("kTablesReady", 2), ("kTablesFailed", 3)] ∧
    Gen.Init.casDesired = "kTablesInProgress" ∧ Gen.Init.casKind = "strong" ∧
    Gen.Init.spinReturnsOn = ["kTablesReady", "kTablesFailed"] ∧ Gen.Init.timeoutReturn = "false" ∧
    Gen.Init.readyCheckOrder = "acquire" ∧ Gen.Init.readyCheckValue = "kTablesReady" ∧
    Gen.Init.otherAtomicAccesses = 0 ∧
    Gen.Init.winnerStores = [("kTablesFailed", "release"), ("kTablesFailed", "release"), ("kTablesReady", "release")] ∧
    Gen.Init.plainStores.length = 19 := by decide

/-- safety: in every reachable state - every interleaving, any number of threads - no data
    race on the table pointers has occurred -/
theorem no_data_race (limit : Nat) (s : State) (h : Reachable (expected limit) s) : s.race = false :=
  (reachable_inv _ (expected_sound limit) s h).norace

/-- every thread that goes on to use the tables has the pointer stores in its happens-before view
    (it never reads a null / half-published pointer) -/
theorem users_see_tables (limit : Nat) (s : State) (h : Reachable (expected limit) s) (t : Nat)
    (hu : (s.th t).pc = .use) : (s.th t).view = true ∧ s.writers = 1 :=
  (reachable_inv _ (expected_sound limit) s h).user_sees_tables t hu

/-- at most one thread ever runs the initialisation -/
theorem single_initialiser (limit : Nat) (s : State) (h : Reachable (expected limit) s) (t u : Nat)
    (ht : active (s.th t).pc = true) (hu : active (s.th u).pc = true) : t = u :=
  (reachable_inv _ (expected_sound limit) s h).one_initialiser t u ht hu

/-- every READY message carries the pointer stores (needs `release` on the READY store and the
    store placed after the plain stores; both are part of `expected`) -/
theorem ready_publishes (limit : Nat) (s : State) (h : Reachable (expected limit) s) (m : Msg)
    (hm : m ∈ s.mo) (hr : m.val = ready) : m.view = true :=
  (reachable_inv _ (expected_sound limit) s h).ready_has_view m hm hr

/-- composed with the tie to the source: the safety theorem applies to the configuration read from
    the current source -/
theorem source_protocol_is_race_free (limit : Nat) (c : Config) (hc : genConfig limit = some c) (s : State)
    (h : Reachable c s) : s.race = false := by
  rw [gen_is_expected] at hc
  injection hc with hc; subst hc
  exact no_data_race limit s h

/- The orders matter: with a relaxed first load, a relaxed READY store, or READY stored before the pointer stores, a race
is reachable (the model is not vacuous, and such a source change is a counter-example, not only a failed
`gen_is_expected`).  The schedule: thread 0 initialises and publishes; thread 1 then loads READY and uses the tables.
Each state below is written exactly as the `Step` constructor that reaches it states its target. -/

def afterFirstLoad (c : Config) : State :=
  init.set 0 { pc := afterLoad uninit none c.spinLimit, seen := 0, view := (init.th 0).view || (c.firstLoad.isAcq && false) }
def afterCas (c : Config) : State :=
  ({ afterFirstLoad c with mo := (afterFirstLoad c).mo ++ [Msg.mk inProgress (c.casSuccess.isRel && (((afterFirstLoad c).th 0).view || (c.casSuccess.isAcq && false)))] } : State).set 0
    { pc := .alloc, seen := (afterFirstLoad c).mo.length, view := ((afterFirstLoad c).th 0).view || (c.casSuccess.isAcq && false) }
def afterAlloc (c : Config) : State := (afterCas c).set 0 { ((afterCas c).th 0) with pc := .writes }
def afterWrite (c : Config) : State :=
  ({ afterAlloc c with writers := (afterAlloc c).writers + 1,
                       race := (afterAlloc c).race || decide (0 < (afterAlloc c).writers) || decide (0 < (afterAlloc c).readers) } : State).set 0
    { ((afterAlloc c).th 0) with pc := .publish, view := true }
def afterPublish (c : Config) : State :=
  ({ afterWrite c with mo := (afterWrite c).mo ++ [Msg.mk ready (c.readyStore.isRel && c.readyAfterWrites && ((afterWrite c).th 0).view)] } : State).set 0
    { ((afterWrite c).th 0) with pc := .use, seen := (afterWrite c).mo.length }
def afterReaderLoad (c : Config) : State :=
  (afterPublish c).set 1 { pc := afterLoad ready none c.spinLimit, seen := 2,
                           view := ((afterPublish c).th 1).view || (c.firstLoad.isAcq && (c.readyStore.isRel && c.readyAfterWrites && ((afterWrite c).th 0).view)) }
def raceTrace (c : Config) : State :=
  { afterReaderLoad c with readers := (afterReaderLoad c).readers + 1, race := (afterReaderLoad c).race || !((afterReaderLoad c).th 1).view || decide ((afterReaderLoad c).writers = 0) }

theorem raceTrace_reachable (c : Config) (hexp : c.casExpectsUninit = true) : Reachable c (raceTrace c) := by
  have h1 : Reachable c (afterFirstLoad c) :=
    Reachable.step _ _ Reachable.init (Step.firstLoad init 0 0 ⟨uninit, false⟩ rfl (Nat.le_refl _) rfl)
  have h2 : Reachable c (afterCas c) :=
    Reachable.step _ _ h1 (Step.casOk (afterFirstLoad c) 0 uninit ⟨uninit, false⟩
      rfl rfl (by simp [hexp]))
  have h3 : Reachable c (afterAlloc c) := Reachable.step _ _ h2 (Step.allocOk (afterCas c) 0 rfl)
  have h4 : Reachable c (afterWrite c) := Reachable.step _ _ h3 (Step.write (afterAlloc c) 0 rfl)
  have h5 : Reachable c (afterPublish c) := Reachable.step _ _ h4 (Step.publish (afterWrite c) 0 rfl)
  have h6 : Reachable c (afterReaderLoad c) :=
    Reachable.step _ _ h5 (Step.firstLoad (afterPublish c) 1 2 ⟨ready, c.readyStore.isRel && c.readyAfterWrites && ((afterWrite c).th 0).view⟩
      rfl (Nat.zero_le 2) rfl)
  exact Reachable.step _ _ h6 (Step.useTables (afterReaderLoad c) 1 rfl)

private theorem raceTrace_race (c : Config) (h : (c.firstLoad.isAcq && (c.readyStore.isRel && c.readyAfterWrites)) = false) :
    (raceTrace c).race = true := by
  -- evaluate the schedule
  simp [raceTrace, afterReaderLoad, afterPublish, afterWrite, afterAlloc, afterCas, afterFirstLoad, State.set, init, h]

/-- with a relaxed READY store the reader's view does not contain the pointer writes: data race -/
theorem relaxed_ready_store_races (limit : Nat) :
    ∃ s, Reachable { expected limit with readyStore := .relaxed } s ∧ s.race = true :=
  ⟨_, raceTrace_reachable _ rfl, raceTrace_race _ rfl⟩

/-- with a relaxed first load the reader does not acquire the writer's view: data race -/
theorem relaxed_first_load_races (limit : Nat) :
    ∃ s, Reachable { expected limit with firstLoad := .relaxed } s ∧ s.race = true :=
  ⟨_, raceTrace_reachable _ rfl, raceTrace_race _ rfl⟩

/-- with READY stored before the pointer stores (program order) the release carries nothing: data race -/
theorem early_ready_store_races (limit : Nat) :
    ∃ s, Reachable { expected limit with readyAfterWrites := false } s ∧ s.race = true :=
  ⟨_, raceTrace_reachable _ rfl, raceTrace_race _ rfl⟩

/-- the limit is a single atomic accessed with relaxed loads/stores (no other mutable namespace-scope
    state in implementation.cpp), and `parse_url_impl` reads it exactly once per call - so a parse
    behaves as under one of the values that were set -/
theorem limit_is_one_atomic :
    Gen.Init.limitVarAtomic = true ∧ Gen.Init.limitLoadOrder = "relaxed" ∧ Gen.Init.limitStoreOrder = "relaxed" ∧
    Gen.Init.plainStaticsInImplementation = [] ∧ Gen.Init.parserLimitReads = 1 := by decide

/- non-vacuity: a first step of the protocol -/
example : Step (expected 8) init (init.set 0 { pc := afterLoad uninit none 8, seen := 0, view := false || (true && false) }) :=
  Step.firstLoad init 0 0 ⟨uninit, false⟩ rfl (Nat.le_refl _) rfl

end AdaVerif.Props.C13
