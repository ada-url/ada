import AdaVerif.Gen.Simd
import AdaVerif.Lemmas.Simd
/-
C18 — Behaviour does not depend on the build configuration.

The SIMD kernels' constants and loop shape are re-extracted from the source on every run
(Gen/Simd.lean).  Theorems: each kernel's per-byte classifier (built from the extracted constants)
is exactly the scalar delimiter set for all 256 bytes; the 16-byte block loop with its overlapping
tail re-load equals the scalar search for every string and start position; every load is in bounds.
Compiler code generation, the AVX-512 IPv4 kernel and the amalgamation are covered by running one
operation corpus on every build and comparing outputs (checks/props/c18.py) - differential testing.
-/
namespace AdaVerif.Props.C18
open AdaVerif AdaVerif.Model AdaVerif.Lemmas

def kernel (name isa : String) : Gen.SimdKernel :=
  (Gen.simdKernels.find? (fun k => k.name == name && k.isa == isa)).getD
    ⟨"", "", false, false, 0, 0, 0, [], false, [], [], [], [], [], false⟩

def isSpecialDelim (b : UInt8) : Bool := b == 0x3A || b == 0x2F || b == 0x5C || b == 0x3F || b == 0x5B
def isDelim (b : UInt8) : Bool := b == 0x3A || b == 0x2F || b == 0x3F || b == 0x5B
def isTabNl (b : UInt8) : Bool := b == 0x09 || b == 0x0A || b == 0x0D

/-- the six x86 kernels exist with the audited loop shape: scalar path exactly when fewer than 16
    bytes remain *after `location`*, blocks while `i + 15 < n`, step 16, tail re-load at `n - 16`
    guarded by `i < n`, and the inverted movemask is cut to 16 bits -/
theorem kernel_shapes :
    Gen.simdKernels.map (fun k => (k.name, k.isa)) =
      [("find_next_host_delimiter_special", "SSSE3"), ("find_next_host_delimiter_special", "SSE2"),
       ("find_next_host_delimiter", "SSSE3"), ("find_next_host_delimiter", "SSE2"),
       ("has_tabs_or_newline", "SSSE3"), ("has_tabs_or_newline", "SSE2")] ∧
    ∀ k ∈ Gen.simdKernels, k.slowUsesLocation = true ∧ k.slowK = 16 ∧ k.stepGuard = 15 ∧ k.stepInc = 16 ∧
      k.tailBack = [16] ∧ k.tailGuard = true ∧ k.andMask16 = true := by decide +kernel

-- The two builds of a kernel are checked in one sweep, so that the scalar set is evaluated once per byte.

private theorem special_classifiers : ∀ b : UInt8,
    nibbleClassify (kernel "find_next_host_delimiter_special" "SSSE3").lowMask
      (kernel "find_next_host_delimiter_special" "SSSE3").highMask b = isSpecialDelim b ∧
    cmpClassify (kernel "find_next_host_delimiter_special" "SSE2").cmpBytes b = isSpecialDelim b := by
  apply forall_uint8_of_fin; decide +kernel
private theorem nonspecial_classifiers : ∀ b : UInt8,
    nibbleClassify (kernel "find_next_host_delimiter" "SSSE3").lowMask
      (kernel "find_next_host_delimiter" "SSSE3").highMask b = isDelim b ∧
    cmpClassify (kernel "find_next_host_delimiter" "SSE2").cmpBytes b = isDelim b := by
  apply forall_uint8_of_fin; decide +kernel
private theorem tabs_classifiers : ∀ b : UInt8,
    rntClassify (kernel "has_tabs_or_newline" "SSSE3").rnt b = isTabNl b ∧
    cmpClassify (kernel "has_tabs_or_newline" "SSE2").cmpBytes b = isTabNl b := by
  apply forall_uint8_of_fin; decide +kernel

theorem special_ssse3_classifier : ∀ b : UInt8,
    nibbleClassify (kernel "find_next_host_delimiter_special" "SSSE3").lowMask
      (kernel "find_next_host_delimiter_special" "SSSE3").highMask b = isSpecialDelim b :=
  fun b => (special_classifiers b).1
theorem special_sse2_classifier : ∀ b : UInt8,
    cmpClassify (kernel "find_next_host_delimiter_special" "SSE2").cmpBytes b = isSpecialDelim b :=
  fun b => (special_classifiers b).2
theorem nonspecial_ssse3_classifier : ∀ b : UInt8,
    nibbleClassify (kernel "find_next_host_delimiter" "SSSE3").lowMask
      (kernel "find_next_host_delimiter" "SSSE3").highMask b = isDelim b :=
  fun b => (nonspecial_classifiers b).1
theorem nonspecial_sse2_classifier : ∀ b : UInt8,
    cmpClassify (kernel "find_next_host_delimiter" "SSE2").cmpBytes b = isDelim b :=
  fun b => (nonspecial_classifiers b).2
theorem tabs_ssse3_classifier : ∀ b : UInt8,
    rntClassify (kernel "has_tabs_or_newline" "SSSE3").rnt b = isTabNl b :=
  fun b => (tabs_classifiers b).1
theorem tabs_sse2_classifier : ∀ b : UInt8,
    cmpClassify (kernel "has_tabs_or_newline" "SSE2").cmpBytes b = isTabNl b :=
  fun b => (tabs_classifiers b).2

/-- the scalar slow paths compare against the same byte sets -/
theorem scalar_paths_same_sets :
    (kernel "find_next_host_delimiter_special" "SSSE3").scalarBytes = [47, 58, 63, 91, 92] ∧
    (kernel "find_next_host_delimiter_special" "SSE2").scalarBytes = [47, 58, 63, 91, 92] ∧
    (kernel "find_next_host_delimiter" "SSSE3").scalarBytes = [47, 58, 63, 91] ∧
    (kernel "find_next_host_delimiter" "SSE2").scalarBytes = [47, 58, 63, 91] := by decide +kernel

/-- for every byte class, string and start position the vector path = the scalar search
    (the loop shape used here is the one `kernel_shapes` pins to the source) -/
theorem vector_path_is_scalar_search (cls : UInt8 → Bool) (v : Bytes) (loc : Nat) (h : loc ≤ v.length) :
    blockFind cls v loc = scalarFind cls v loc := blockFind_eq_scalar cls v loc

/-- hence the SSE2 and SSSE3 builds of `find_next_host_delimiter_special` agree on every input -/
theorem special_builds_agree (v : Bytes) (loc : Nat) (h : loc ≤ v.length) :
    blockFind (nibbleClassify (kernel "find_next_host_delimiter_special" "SSSE3").lowMask
        (kernel "find_next_host_delimiter_special" "SSSE3").highMask) v loc =
    blockFind (cmpClassify (kernel "find_next_host_delimiter_special" "SSE2").cmpBytes) v loc := by
  congr 1; funext b
  rw [special_ssse3_classifier, special_sse2_classifier]

theorem nonspecial_builds_agree (v : Bytes) (loc : Nat) (h : loc ≤ v.length) :
    blockFind (nibbleClassify (kernel "find_next_host_delimiter" "SSSE3").lowMask
        (kernel "find_next_host_delimiter" "SSSE3").highMask) v loc =
    blockFind (cmpClassify (kernel "find_next_host_delimiter" "SSE2").cmpBytes) v loc := by
  congr 1; funext b
  rw [nonspecial_ssse3_classifier, nonspecial_sse2_classifier]

/-- `has_tabs_or_newline` (both builds) answers "contains tab, LF or CR" for every byte string -/
theorem has_tabs_correct (v : Bytes) :
    hasAny (rntClassify (kernel "has_tabs_or_newline" "SSSE3").rnt) v = v.any isTabNl ∧
    hasAny (cmpClassify (kernel "has_tabs_or_newline" "SSE2").cmpBytes) v = v.any isTabNl := by
  constructor
  · rw [hasAny_eq]; congr 1; funext b; exact tabs_ssse3_classifier b
  · rw [hasAny_eq]; congr 1; funext b; exact tabs_sse2_classifier b

/-- every 16-byte load lies inside `[0, n)` (also obligation (i) of C02 for the SIMD tail) -/
theorem vector_loads_in_bounds (v : Bytes) (f i : Nat) (h16 : 16 ≤ v.length) :
    ∀ s ∈ loadOffsets v f i, s + 16 ≤ v.length := loads_in_bounds v f i h16

example : blockFind isSpecialDelim (ofStr "aaaaaaaaaaaaaaaaaaaa[bbb") 3 = 20 := by decide +kernel
example : blockFind isSpecialDelim (ofStr "a:aaaaaaaaaaaaaaaaaaaaaa") 3 = 24 := by decide +kernel
example : loadOffsets (ofStr "aaaaaaaaaaaaaaaaaaaa[bbb") 24 3 = [3, 8] := by decide +kernel

end AdaVerif.Props.C18
