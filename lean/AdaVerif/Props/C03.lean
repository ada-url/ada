import AdaVerif.Lemmas.ParseInv
import AdaVerif.Lemmas.Guard
import AdaVerif.Lemmas.AggSetters
import AdaVerif.Lemmas.UrlSetters
import AdaVerif.Lemmas.AggSetPathname
import AdaVerif.Lemmas.Protocol
import AdaVerif.Lemmas.HostSetter
import AdaVerif.Lemmas.AggHostSetter
import AdaVerif.Props.C10
import AdaVerif.Lemmas.ParseBase
import AdaVerif.Props.C04
/-
C03 — Setters implement the Standard's API setters and fail atomically.

Oracle: `Spec.applyOp` (Spec/Setters.lean), a structured transcription of the API setters =
basic URL parser with a state override; validated on every run against setters_tests.json and
ada_extra_setters_tests.json, and compared with both C++ URL types on generated histories.
-/
namespace AdaVerif.Props.C03
open AdaVerif AdaVerif.Spec AdaVerif.Lemmas AdaVerif.Model

/-- a setter that reports failure leaves every observable unchanged -/
theorem failure_is_atomic {σ : Type} (size : σ → Nat) (L : Nat) (run : σ → Option σ) (s : σ)
    (h : (guarded size L run s).2 = false) : (guarded size L run s).1 = s :=
  guarded_atomic size L run s h

/-- a setter that reports success leaves exactly the state its sub-parser computed -/
theorem success_is_exact {σ : Type} (size : σ → Nat) (L : Nat) (run : σ → Option σ) (s : σ)
    (h : (guarded size L run s).2 = true) : run s = some (guarded size L run s).1 :=
  guarded_success size L run s h

/- the refusals prescribed by the Standard (Spec level, every value) -/

theorem username_refused (u : Url) (v : Bytes) (h : u.cannotHaveUsernamePasswordPort = true) :
    setUsername u v = u := by simp [setUsername, h]
theorem password_refused (u : Url) (v : Bytes) (h : u.cannotHaveUsernamePasswordPort = true) :
    setPassword u v = u := by simp [setPassword, h]
theorem port_refused (u : Url) (v : Bytes) (h : u.cannotHaveUsernamePasswordPort = true) :
    setPort u v = u := by simp [setPort, h]
theorem host_refused_opaque (hn : Bool) (idna : Idna) (u : Url) (v : Bytes) (h : u.isOpaque = true) :
    setHostGeneric hn idna u v = u := by simp [setHostGeneric, h]
theorem pathname_refused_opaque (u : Url) (v : Bytes) (h : u.isOpaque = true) : setPathname u v = u := by
  simp [setPathname, h]

theorem protocolCore_keeps_specialness (u : Url) (buf : Bytes) :
    (protocolCore u buf).isSpecial = u.isSpecial := by
  cases hok : Proto.coreOk u buf
  · rw [Proto.protocolCore_refused u buf hok]
  · -- past the first refusal the new scheme is special exactly if the old one is
    have h1 : (isSpecialScheme u.scheme != isSpecialScheme buf) = false := by
      cases h : (isSpecialScheme u.scheme != isSpecialScheme buf)
      · rfl
      · simp [Proto.coreOk, h] at hok
    rw [Proto.protocolCore_ok u buf hok]
    split <;> exact (bne_eq_false_iff_eq.mp h1).symm

/-- the protocol setter never crosses the special / non-special boundary -/
theorem protocol_keeps_specialness (u : Url) (v : Bytes) :
    (setProtocol u v).isSpecial = u.isSpecial := by
  unfold setProtocol
  simp only
  split
  · rfl
  · split
    · rfl
    · split
      · exact protocolCore_keeps_specialness u _
      · rfl

/-- a scheme change never leaves the new scheme's default port stored -/
theorem protocol_clears_default_port (u : Url) (v : Bytes) (p : Nat)
    (h : (setProtocol u v).port = some p) (hu : RecInv u = true) :
    defaultPort (setProtocol u v).scheme ≠ some p := by
  have := portOk_of_recinv _ (recinv_protocol u v hu)
  rw [h] at this
  exact this.2

/-- the port setter stores only numbers ≤ 65535 and never the default port -/
theorem port_setter_range (u : Url) (v : Bytes) (p : Nat) (hu : RecInv u = true)
    (h : (setPort u v).port = some p) : p ≤ 65535 ∧ defaultPort (setPort u v).scheme ≠ some p := by
  have := portOk_of_recinv _ (recinv_port u v hu)
  rw [h] at this
  exact this

/-- query/fragment setters touch nothing else -/
theorem search_only_query (u : Url) (v : Bytes) (hv : v ≠ []) :
    let u' := setSearch u v
    u'.scheme = u.scheme ∧ u'.username = u.username ∧ u'.password = u.password ∧ u'.host = u.host ∧
    u'.port = u.port ∧ u'.path = u.path ∧ u'.opath = u.opath ∧ u'.fragment = u.fragment := by
  simp [setSearch, hv]
theorem hash_only_fragment (u : Url) (v : Bytes) (hv : v ≠ []) :
    let u' := setHash u v
    u'.scheme = u.scheme ∧ u'.username = u.username ∧ u'.password = u.password ∧ u'.host = u.host ∧
    u'.port = u.port ∧ u'.path = u.path ∧ u'.opath = u.opath ∧ u'.query = u.query := by
  simp [setHash, hv]

/-- every setter keeps the record invariants (full statement in Props/C19) -/
theorem setters_keep_invariants (idna : Idna) (u : Url) (op : Op) (v : Bytes) (h : RecInv u = true) :
    RecInv (applyOp idna u op v) = true := by
  cases op <;> simp only [applyOp]
  · unfold setHref
    split
    · rename_i n hn; exact parse_inv idna v none n (fun _ hb => by cases hb) hn
    · exact h
  · exact recinv_protocol u v h
  · exact recinv_username u v h
  · exact recinv_password u v h
  · exact recinv_host false idna u v h
  · exact recinv_host true idna u v h
  · exact recinv_port u v h
  · exact recinv_pathname u v h
  · exact recinv_search u v h
  · exact recinv_hash u v h

/- End to end for the single-buffer representation (component setters).

`Model/AggSetters.lean` transcribes `url_aggregator::set_username / set_password / set_search / set_hash / set_port` and
the state-override part of `set_protocol`, `Model/AggPath.lean` `set_pathname` (precondition, percent-encoding or
sub-parser, in-place editor, size check against the limit, roll-back) on top of the editor layer of C07.  For every record satisfying the invariants of C19, every value and every
limit: the C++ setter model applied to the record's buffer yields the buffer of the Standard's setter
result when it fits the limit - and otherwise leaves the buffer as it was and reports failure. -/

open AdaVerif.Model.Agg AdaVerif.Lemmas.AggL in
theorem aggregator_setters_end_to_end (L : Nat) (u : Url) (v : Bytes) (hinv : RecInv u = true) (hna : TailNoAt (ofUrl u)) :
    setUsernameM L (u.scheme == bFile) (layout (ofUrl u)) v =
      (if u.cannotHaveUsernamePasswordPort then (layout (ofUrl u), false)
       else if (layout (ofUrl (setUsername u v))).buf.length ≤ L then (layout (ofUrl (setUsername u v)), true)
       else (layout (ofUrl u), false)) ∧
    setPasswordM L (u.scheme == bFile) (layout (ofUrl u)) v =
      (if u.cannotHaveUsernamePasswordPort then (layout (ofUrl u), false)
       else if (layout (ofUrl (setPassword u v))).buf.length ≤ L then (layout (ofUrl (setPassword u v)), true)
       else (layout (ofUrl u), false)) ∧
    (v ≠ [] → setSearchM L u.isSpecial (layout (ofUrl u)) v =
      if (layout (ofUrl (setSearch u v))).buf.length ≤ L then layout (ofUrl (setSearch u v)) else layout (ofUrl u)) ∧
    (v ≠ [] → setHashM L (layout (ofUrl u)) v =
      if (layout (ofUrl (setHash u v))).buf.length ≤ L then layout (ofUrl (setHash u v)) else layout (ofUrl u)) :=
  ⟨setUsername_end_to_end L u v (credOk_of_recInv u hinv) hna, setPassword_end_to_end L u v (credOk_of_recInv u hinv) hna,
   setSearch_end_to_end L u v, setHash_end_to_end L u v⟩

/-- ... and `set_port`: precondition, empty value clears, tab/newline removal, leading-digit requirement,
    16-bit range, default-port elision, in-place edit, limit check with roll-back -/
theorem aggregator_set_port_end_to_end (L : Nat) (u : Url) (v : Bytes) (hinv : RecInv u = true) :
    AdaVerif.Model.Agg.setPortM L (u.scheme == bFile) (defaultPort u.scheme) (AdaVerif.Model.Agg.layout (AdaVerif.Lemmas.AggL.ofUrl u)) v =
      if u.cannotHaveUsernamePasswordPort then (AdaVerif.Model.Agg.layout (AdaVerif.Lemmas.AggL.ofUrl u), false)
      else if v.isEmpty then (AdaVerif.Model.Agg.layout (AdaVerif.Lemmas.AggL.ofUrl (setPort u v)), true)
      else match stripTN v with
        | [] => (AdaVerif.Model.Agg.layout (AdaVerif.Lemmas.AggL.ofUrl u), true)
        | c :: _ =>
          if !isAsciiDigit c then (AdaVerif.Model.Agg.layout (AdaVerif.Lemmas.AggL.ofUrl u), false)
          else if parseRadix 10 ((stripTN v).takeWhile isAsciiDigit) > 65535 then (AdaVerif.Model.Agg.layout (AdaVerif.Lemmas.AggL.ofUrl u), false)
          else if (AdaVerif.Model.Agg.layout (AdaVerif.Lemmas.AggL.ofUrl (setPort u v))).buf.length ≤ L then
            (AdaVerif.Model.Agg.layout (AdaVerif.Lemmas.AggL.ofUrl (setPort u v)), true)
          else (AdaVerif.Model.Agg.layout (AdaVerif.Lemmas.AggL.ofUrl u), false) :=
  AdaVerif.Lemmas.AggL.setPort_end_to_end L u v (AdaVerif.Lemmas.AggL.credOk_of_recInv u hinv)

/-- ... and the protocol setter's state-override part (the three refusals, the scheme replacement in the
    buffer, removal of a port that is the new scheme's default, the limit check) -/
theorem aggregator_set_protocol_end_to_end (L : Nat) (u : Url) (s : Bytes) (hinv : RecInv u = true) :
    (AdaVerif.Model.Agg.setProtocolCoreM L u.isSpecial (u.scheme == bFile) (AdaVerif.Model.Agg.layout (AdaVerif.Lemmas.AggL.ofUrl u)) s).1 =
      if (AdaVerif.Model.Agg.layout (AdaVerif.Lemmas.AggL.ofUrl (protocolCore u s))).buf.length ≤ L
      then AdaVerif.Model.Agg.layout (AdaVerif.Lemmas.AggL.ofUrl (protocolCore u s))
      else AdaVerif.Model.Agg.layout (AdaVerif.Lemmas.AggL.ofUrl u) :=
  AdaVerif.Lemmas.AggL.setProtocolCore_end_to_end L u s (AdaVerif.Lemmas.AggL.credOk_of_recInv u hinv) (fun hf => (C04.file_facts u hinv hf).1)

/-- ... and the pathname setter of the single buffer: `clear_pathname`, `parse_path` (`update_base_pathname("/")` or
    `consume_prepared_path` with its in-place shortcut), the "/." fix-up for a path that begins with "//" and has no
    authority in front, the limit check with roll-back -/
theorem aggregator_set_pathname_end_to_end (L ty : Nat) (u : Url) (v : Bytes) (hinv : RecInv u = true) (hty : PP.TyOf u.scheme ty) :
    AdaVerif.Model.Agg.setPathnameM L ty u.isSpecial (AdaVerif.Model.Agg.layout (AdaVerif.Lemmas.AggL.ofUrl u)) v =
      if u.isOpaque then (AdaVerif.Model.Agg.layout (AdaVerif.Lemmas.AggL.ofUrl u), false)
      else if (AdaVerif.Model.Agg.layout (AdaVerif.Lemmas.AggL.ofUrl (setPathname u v))).buf.length ≤ L then
        (AdaVerif.Model.Agg.layout (AdaVerif.Lemmas.AggL.ofUrl (setPathname u v)), true)
      else (AdaVerif.Model.Agg.layout (AdaVerif.Lemmas.AggL.ofUrl u), false) :=
  AdaVerif.Lemmas.AggL.setPathname_end_to_end L ty u v (AdaVerif.Lemmas.AggL.credOk_of_recInv u hinv) hty

/- End to end for `ada::url` (component setters).

`Model/UrlSetters.lean` transcribes `url::set_username / set_password / set_port` (with `url::parse_port`),
`set_hash / set_search` (with `strip_trailing_spaces_from_opaque_path`) and `set_pathname` (with `url::parse_path`
and `helpers::parse_prepared_path`): precondition, processing, assignment, `get_href_size()` against the limit,
restore.  `recOf u` is the `ada::url` object holding the Standard's record `u`.  For every record satisfying the
invariants of C19, every value and every limit the C++ setter yields the object holding the Standard's setter
result when it fits the limit - and otherwise leaves the object as it was and reports failure. -/

open AdaVerif.Model.UrlRec AdaVerif.Lemmas.UR in
theorem url_setters_end_to_end (L ty : Nat) (u : Url) (v : Bytes) (hinv : RecInv u = true) (hty : PP.TyOf u.scheme ty) :
    setUsernameR L ty (recOf u) v =
      (if u.cannotHaveUsernamePasswordPort then (recOf u, false)
       else if getHrefSize (recOf (setUsername u v)) ≤ L then (recOf (setUsername u v), true) else (recOf u, false)) ∧
    setPasswordR L ty (recOf u) v =
      (if u.cannotHaveUsernamePasswordPort then (recOf u, false)
       else if getHrefSize (recOf (setPassword u v)) ≤ L then (recOf (setPassword u v), true) else (recOf u, false)) ∧
    setHashR L (recOf u) v =
      (if v.isEmpty then recOf (setHash u v)
       else if getHrefSize (recOf (setHash u v)) ≤ L then recOf (setHash u v) else recOf u) ∧
    setSearchR L (recOf u) v =
      (if v.isEmpty then recOf (setSearch u v)
       else if getHrefSize (recOf (setSearch u v)) ≤ L then recOf (setSearch u v) else recOf u) ∧
    setPathnameR L ty (recOf u) v =
      (if u.isOpaque then (recOf u, false)
       else if getHrefSize (recOf (setPathname u v)) ≤ L then (recOf (setPathname u v), true) else (recOf u, false)) :=
  ⟨setUsernameR_eq L ty u v (AdaVerif.Lemmas.AggL.credOk_of_recInv u hinv) hty.file,
   setPasswordR_eq L ty u v (AdaVerif.Lemmas.AggL.credOk_of_recInv u hinv) hty.file,
   setHashR_eq L u v, setSearchR_eq L u v, setPathnameR_eq L ty u v hty⟩

open AdaVerif.Model.UrlRec AdaVerif.Lemmas.UR in
/-- ... and `url::set_port` with `url::parse_port` (`std::from_chars` range, default-port elision) -/
theorem url_set_port_end_to_end (L ty : Nat) (u : Url) (v : Bytes) (hinv : RecInv u = true) (hty : PP.TyOf u.scheme ty) :
    setPortR L ty ((defaultPort u.scheme).getD 0) (recOf u) v =
      if u.cannotHaveUsernamePasswordPort then (recOf u, false)
      else if v.isEmpty then (recOf (setPort u v), true)
      else match stripTN v with
        | [] => (recOf u, true)
        | c :: _ =>
          if !isAsciiDigit c then (recOf u, false)
          else if parseRadix 10 ((stripTN v).takeWhile isAsciiDigit) > 65535 then (recOf u, false)
          else if getHrefSize (recOf (setPort u v)) ≤ L then (recOf (setPort u v), true)
          else (recOf u, false) :=
  setPortR_eq L ty u v (AdaVerif.Lemmas.AggL.credOk_of_recInv u hinv) hty.file

/- The protocol setter of both types, scan included.

`Model/Protocol.lean` transcribes `set_protocol` of both types from its first line: tab/newline removal, the
alphabetic first byte, the appended ':', `find_if_not(is_alnum_plus)`, then `url::parse_scheme<true>` /
`url_aggregator::parse_scheme_with_colon<true>` with their fast path (perfect-hash hit on the text as given) and slow
path (lower-case copy, `is_special`, `set_scheme`), default-port removal through the new `type`, the limit check.
`scanProtocol` is the shared scan; `Lemmas.Proto.scan_spec` shows the Standard's setter is "scan, then scheme state
with state override on the lower-cased name"; `coreOk` says none of the three refusals applies. -/

theorem scan_is_the_standards (u : Url) (v : Bytes) :
    setProtocol u v = match AdaVerif.Model.scanProtocol v with
      | .name n => protocolCore u (n.map toLowerByte)
      | _ => u := AdaVerif.Lemmas.Proto.scan_spec u v

open AdaVerif.Model.Agg AdaVerif.Lemmas.AggL AdaVerif.Lemmas.Proto in
/-- `url_aggregator::set_protocol`, end to end (state and return value) -/
theorem aggregator_set_protocol_full (L : Nat) (u : Url) (v : Bytes) (hinv : RecInv u = true) :
    setProtocolM L u.isSpecial (u.scheme == bFile) (layout (ofUrl u)) v = match AdaVerif.Model.scanProtocol v with
      | .empty => (layout (ofUrl u), true)
      | .reject => (layout (ofUrl u), false)
      | .name n =>
        if coreOk u (n.map toLowerByte) then
          (if (layout (ofUrl (setProtocol u v))).buf.length ≤ L then (layout (ofUrl (setProtocol u v)), true)
           else (layout (ofUrl u), false))
        else (layout (ofUrl u), false) :=
  setProtocolM_eq L u v (credOk_of_recInv u hinv) (fun hf => (C04.file_facts u hinv hf).1)

open AdaVerif.Model.UrlRec AdaVerif.Lemmas.UR AdaVerif.Lemmas.Proto in
/-- `url::set_protocol`, end to end (state and return value) -/
theorem url_set_protocol_full (L ty : Nat) (u : Url) (v : Bytes) (hinv : RecInv u = true) (hty : (ty == 6) = (u.scheme == bFile)) :
    setProtocolR L ty (recOf u) v = match AdaVerif.Model.scanProtocol v with
      | .empty => (recOf u, true)
      | .reject => (recOf u, false)
      | .name n =>
        if coreOk u (n.map toLowerByte) then
          (if getHrefSize (recOf (setProtocol u v)) ≤ L then (recOf (setProtocol u v), true) else (recOf u, false))
        else (recOf u, false) :=
  setProtocolR_eq L ty u v (AdaVerif.Lemmas.AggL.credOk_of_recInv u hinv) hty

/- The host and href setters of both types.

`Model/HostSetter.lean` transcribes `url::set_host_or_hostname<override_hostname>` with
`helpers::get_host_delimiter_location` (the walk to the next of ':', '/', '?', '[' - '\\' for special schemes - with its
jump from '[' to the next ']'), the file-host branch with its `localhost` rule, `parse_host` (proved in C10) and the port
part.  `partial`: the theorem needs `bracketClean` - no '/', '?' or '\\' between a '[' and the next ']' - because there
the C++ (which jumps over them) and the Standard (which stops) cut the host differently; both then reject the value, but
for different reasons, and that is left to the correspondence run.  IDNA is a parameter (`IdnaAt`, see C10). -/

open AdaVerif.Model.UrlRec AdaVerif.Lemmas.UR AdaVerif.Lemmas.HS in
/-- `url::set_host` (hn = false) and `url::set_hostname` (hn = true), end to end -/
theorem url_set_host_end_to_end_partial (hn : Bool) (idna : Idna) (L ty : Nat) (u : Url) (v : Bytes) (hty : PP.TyOf u.scheme ty)
    (hid : ∀ d, AdaVerif.Lemmas.HP.IdnaAt idna d)
    (hclean : u.scheme ≠ bFile → bracketClean u.isSpecial false (stripTN (v.takeWhile (· != 0x23))) = true) :
    (setHostR hn idna L ty ((defaultPort u.scheme).getD 0) (recOf u) v).1 =
      if getHrefSize (recOf (setHostGeneric hn idna u v)) ≤ L then recOf (setHostGeneric hn idna u v) else recOf u :=
  setHostR_eq hn idna L ty u v hty hid hclean

open AdaVerif.Model.ParseSpecial AdaVerif.Model.UrlRec AdaVerif.Lemmas.UR in
/-- `url::set_href`, end to end: parse (the whole state machine of C01, no base), size checks, take-over - the object
    holding `u` becomes the object holding the Standard's href-setter result when the value and the normalized href fit the
    limit, and stays untouched otherwise (same side condition and IDNA parameter as `Props.C01.parser_no_base_partial`) -/
theorem url_set_href_end_to_end_partial (idna : Idna) (L : Nat) (u : Url) (v : Bytes) (hid : ∀ d, AdaVerif.Lemmas.HP.IdnaAt idna d)
    (hclean : AdaVerif.Lemmas.BR.bracketOk (schemeSpecial v) (hostStart v) = true) :
    setHrefR idna L (recOf u) v =
      match parse idna v none with
      | some n => if v.length ≤ L ∧ getHrefSize (recOf n) ≤ L then (recOf n, true) else (recOf u, false)
      | none => (recOf u, false) :=
  AdaVerif.Lemmas.PB.setHrefR_eq idna L u v hid hclean

open AdaVerif.Model.ParseSpecial AdaVerif.Model.UrlRec AdaVerif.Lemmas.UR in
/-- … which is `Spec.setHref` when nothing is refused for size -/
theorem url_set_href_is_setHref (idna : Idna) (u : Url) (v : Bytes) (L : Nat) (hid : ∀ d, AdaVerif.Lemmas.HP.IdnaAt idna d)
    (hclean : AdaVerif.Lemmas.BR.bracketOk (schemeSpecial v) (hostStart v) = true)
    (hfit : v.length ≤ L ∧ getHrefSize (recOf (setHref idna u v)) ≤ L) :
    (setHrefR idna L (recOf u) v).1 = recOf (setHref idna u v) := by
  rw [url_set_href_end_to_end_partial idna L u v hid hclean]
  unfold setHref at hfit ⊢
  cases hp : parse idna v none with
  | none => rfl
  | some n =>
    rw [hp] at hfit
    simp only at hfit ⊢
    simp [hfit]

open AdaVerif.Model.ParseSpecial AdaVerif.Model.ParseAgg AdaVerif.Model.UrlRec AdaVerif.Model.Agg AdaVerif.Lemmas.UR in
/-- `url_aggregator::set_href`, end to end: the aggregator's own parser (`Model/ParseAgg.lean`, proved in step with
    `ada::url`'s in `Props.C04.parse_agrees`), its size checks on `buffer.size()`, and the take-over: the buffer that
    lays out `u`'s fields becomes the buffer that lays out the Standard's href-setter result, or stays as it is -/
theorem aggregator_set_href_end_to_end_partial (idna : Idna) (L : Nat) (u : Url) (v : Bytes) (hid : ∀ d, AdaVerif.Lemmas.HP.IdnaAt idna d)
    (hclean : AdaVerif.Lemmas.BR.bracketOk (schemeSpecial v) (hostStart v) = true) :
    setHrefA idna L (layout (toL (recOf u))) v =
      match parse idna v none with
      | some n => if v.length ≤ L ∧ getHrefSize (recOf n) ≤ L then (layout (toL (recOf n)), true) else (layout (toL (recOf u)), false)
      | none => (layout (toL (recOf u)), false) := by
  rw [C04.href_agrees idna L u v hid hclean, url_set_href_end_to_end_partial idna L u v hid hclean]
  cases parse idna v none with
  | none => rfl
  | some n =>
    simp only
    split <;> rfl

open AdaVerif.Model.Agg AdaVerif.Lemmas.AggL in
/-- `url_aggregator::set_host` / `set_hostname`, end to end (`Model/AggHostSetter.lean`, on the editor layer of C07:
    `update_base_hostname`, the "/." guard dropped once there is a host, `update_base_port` / `clear_port`,
    `clear_hostname` or just the "//" for an empty host, the `localhost` rule on the buffer), same side conditions -/
theorem aggregator_set_host_end_to_end_partial (hn : Bool) (idna : Idna) (L : Nat) (u : Url) (v : Bytes) (hinv : RecInv u = true)
    (hna : TailNoAt (ofUrl u)) (hid : ∀ d, AdaVerif.Lemmas.HP.IdnaAt idna d)
    (hfile : u.scheme = bFile → u.host.isSome = true ∧ u.username = [] ∧ u.password = [])
    (hclean : u.scheme ≠ bFile → AdaVerif.Lemmas.HS.bracketClean u.isSpecial false (stripTN (v.takeWhile (· != 0x23))) = true) :
    (setHostA hn idna L u.isSpecial (u.scheme == bFile) ((defaultPort u.scheme).getD 0) (layout (ofUrl u)) v).1 =
      if (layout (ofUrl (setHostGeneric hn idna u v))).buf.length ≤ L then layout (ofUrl (setHostGeneric hn idna u v))
      else layout (ofUrl u) :=
  setHostA_eq hn idna L u v (credOk_of_recInv u hinv) hna hfile hid hclean

/-- the delimiter walk of `get_host_delimiter_location` is the Standard's "cut at '/', '?' ('\\'), then the first ':'
    outside brackets", whenever no hard delimiter stands inside brackets -/
theorem host_delimiter_location_is_host_state (special : Bool) (view : Bytes)
    (hc : AdaVerif.Lemmas.HS.bracketClean special false view = true) :
    AdaVerif.Model.UrlRec.getHostDelimiterLocation special view =
      (if hostEnd (view.takeWhile (fun b => !AdaVerif.Model.UrlRec.isHardDelim special b)) <
            (view.takeWhile (fun b => !AdaVerif.Model.UrlRec.isHardDelim special b)).length
       then (hostEnd (view.takeWhile (fun b => !AdaVerif.Model.UrlRec.isHardDelim special b)), true)
       else ((view.takeWhile (fun b => !AdaVerif.Model.UrlRec.isHardDelim special b)).length, false)) :=
  AdaVerif.Lemmas.HS.split_agree special view hc

def noIdna : Idna := ⟨fun _ => none⟩
example : (setPort { scheme := bHttps, host := some (.domain (ofStr "h")), path := [[]] } (ofStr "8080")).port = some 8080 := by
  decide +kernel
example : (setPort { scheme := bHttps, host := some (.domain (ofStr "h")), path := [[]] } (ofStr "443")).port = none := by
  decide +kernel
example : (AdaVerif.Model.UrlRec.setPathnameR 100 2 (AdaVerif.Lemmas.UR.recOf { scheme := bHttps, host := some (.domain (ofStr "h")), path := [[]] })
    (ofStr "/a/../b")).1.path = ofStr "/b" := by decide +kernel
example : (AdaVerif.Model.Agg.setPathnameM 100 1 false (AdaVerif.Model.Agg.layout (AdaVerif.Lemmas.AggL.ofUrl { scheme := ofStr "foo", path := [ofStr "a"] }))
    (ofStr "//x")).1.buf = ofStr "foo:/.//x" := by decide +kernel
example : (AdaVerif.Model.UrlRec.setProtocolR 100 2 (AdaVerif.Lemmas.UR.recOf { scheme := bHttps, host := some (.domain (ofStr "h")), port := some 80, path := [[]] })
    (ofStr "H\tTTP:x")) = (AdaVerif.Lemmas.UR.recOf { scheme := bHttp, host := some (.domain (ofStr "h")), path := [[]] }, true) := by decide +kernel
example : AdaVerif.Lemmas.HS.bracketClean true false (ofStr "[::1]:8080/x") = true := by decide +kernel
example : (AdaVerif.Model.UrlRec.setHostR false AdaVerif.Props.C10.asciiIdna 100 2 443
    (AdaVerif.Lemmas.UR.recOf { scheme := bHttps, host := some (.domain (ofStr "h")), path := [[]] }) (ofStr "EXAMPLE.com:8080/x")).1 =
    AdaVerif.Lemmas.UR.recOf { scheme := bHttps, host := some (.domain (ofStr "example.com")), port := some 8080, path := [[]] } := by
  decide +kernel
example : (guarded List.length 3 (fun (s : List Nat) => some (0 :: s)) [1, 2, 3]) = ([1, 2, 3], false) := by decide

end AdaVerif.Props.C03
