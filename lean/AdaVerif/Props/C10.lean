import AdaVerif.Lemmas.Ipv6
import AdaVerif.Lemmas.Ipv4
import AdaVerif.Lemmas.ParseInv
import AdaVerif.Lemmas.KernIs4
import AdaVerif.Lemmas.Kern6Ser
import AdaVerif.Lemmas.Kern6Parse
import AdaVerif.Lemmas.Kern6Main
import AdaVerif.Lemmas.HostParse
/-
C10 — Hosts are classified and canonicalised per the Standard; host kind is truthful.

Spec/Host.lean transcribes the Standard's IPv4 / IPv6 / host parsers over unbounded `Nat`.

The IP address kernels of the implementation are modelled statement by statement (Model/HostKernels.lean; the
`ada::url` and `ada::url_aggregator` versions are textual twins and both are run against the model on every check):
`kernel_is_ipv4`, `kernel_parse_ipv4`, `kernel_serialize_ipv4`, `kernel_serialize_ipv6` below prove them equal to the
Standard's definitions on every input (Lemmas/Kern4.lean, KernIs4.lean, Kern6Ser.lean), and `kernel_parse_ipv6` does the
same for `parse_ipv6` (Lemmas/Kern6Parse.lean, Kern6Main.lean).
-/
namespace AdaVerif.Props.C10
open AdaVerif AdaVerif.Spec AdaVerif.Lemmas

open AdaVerif.Model.HostKernels in
/-- checkers::is_ipv4 = the Standard's ends-in-a-number checker, on every non-empty text without upper-case ASCII
    (the precondition written in the source: the host has been lower-cased) -/
theorem kernel_is_ipv4 (s : Bytes) (hs : s ≠ []) (hlow : ∀ b ∈ s, isAsciiUpper b = false) : isIpv4 s = endsInANumber s :=
  K4.isIpv4_eq s hs hlow

open AdaVerif.Model.HostKernels in
/-- parse_ipv4 (with `parse_ipv4_number`, its 32-bit overflow guards, the decimal fast path and the "four pure
    decimal parts: keep the text" shortcut) stores the Standard's IPv4 parser followed by the Standard's serializer,
    on every text that does not end in two dots (what `is_ipv4` lets through) -/
theorem kernel_parse_ipv4 (s : Bytes)
    (hend : (if s.getLast? == some 0x2E then s.dropLast else s).getLast? ≠ some 0x2E) :
    parseIpv4 s = (ipv4Parse s).map ipv4Serialize :=
  K4.parseIpv4_eq s hend

open AdaVerif.Model.HostKernels in
/-- what `is_ipv4` accepts satisfies the side condition of `kernel_parse_ipv4` -/
theorem kernel_parse_ipv4_after_is_ipv4 (s : Bytes) (hs : s ≠ []) (hlow : ∀ b ∈ s, isAsciiUpper b = false)
    (h : isIpv4 s = true) : parseIpv4 s = (ipv4Parse s).map ipv4Serialize :=
  HP.parseIpv4_after s hs hlow h

open AdaVerif.Model.HostKernels in
/-- serializers::ipv4 = the Standard's IPv4 serializer (every address) -/
theorem kernel_serialize_ipv4 (a : Nat) : serIpv4 a = ipv4Serialize a := K4.serIpv4_eq a

open AdaVerif.Model.HostKernels in
/-- serializers::ipv6 (longest-zero-run search, `::` placement, `write_hex_u16`) = the Standard's IPv6 serializer
    between brackets, for every eight 16-bit pieces -/
theorem kernel_serialize_ipv6 (a : List Nat) (hl : a.length = 8) (ha : ∀ x ∈ a, x < 65536) :
    serIpv6 a = [0x5B] ++ ipv6Serialize a ++ [0x5D] := K6.serIpv6_eq a hl ha

open AdaVerif.Model.HostKernels in
/-- `url::parse_ipv6` is the Standard's IPv6 parser, on every input (early exits, 45-byte limit and the in-place move of
    the pieces behind `::` included) -/
theorem kernel_parse_ipv6 (input : Bytes) : parseIpv6 input = ipv6Parse input := K6.parseIpv6_eq input

open AdaVerif.Model.HostKernels in
/-- the 45-byte limit of `parse_ipv6` rejects nothing the Standard accepts -/
theorem ipv6_text_at_most_45 (s : Bytes) (a : List Nat) (h : ipv6Parse s = some a) : s.length ≤ 45 := K6.spec_len45 s a h

open AdaVerif.Model.HostKernels in
/-- parsing and serialising with the code's kernels is parsing and serialising with the Standard's, for every
    bracketed host text (the pieces a successful parse yields are eight 16-bit numbers) -/
theorem kernel_ipv6_host (input : Bytes) (a : List Nat) (h : parseIpv6 input = some a)
    (hl : a.length = 8) (hb : ∀ x ∈ a, x < 65536) :
    serIpv6 a = [0x5B] ++ ipv6Serialize a ++ [0x5D] ∧ ipv6Parse input = some a :=
  ⟨K6.serIpv6_eq a hl hb, by rw [← K6.parseIpv6_eq]; exact h⟩

/-
`Model/HostParse.lean` transcribes `url::parse_host` (with `parse_opaque_host` and `unicode::to_ascii`) and
`url_aggregator::parse_host` (a different text: it scans the input once for "forbidden or upper case" and has a
lower-casing route of its own); both are run against the real functions on every check.  `ada::idna::to_ascii` is a
parameter; what is assumed of it is stated for the one domain it is asked about (`IdnaAt`: ASCII lower-case output and
the Standard's rule that an all-ASCII domain without an ACE label is just lower-cased - decided per input by C06). -/

open AdaVerif.Model.HostParse AdaVerif.Lemmas.HP in
/-- `url::parse_host` and `url_aggregator::parse_host` are the Standard's host parser: they fail exactly when it
    fails, store the serialisation of the host it produces (IPv6 in brackets and compressed, IPv4 as dotted decimal,
    domains lower-cased / through domain-to-ASCII, opaque hosts percent-encoded), and `host_type` is the kind of that
    host - through the pure-decimal shortcut, the "nothing forbidden, no xn-" shortcuts and the `to_ascii` route alike -/
theorem parse_host_is_host_parser (idna : Idna) (special : Bool) (input : Bytes) (hne : input ≠ [])
    (hid : IdnaAt idna (percentDecode input)) :
    parseHost idna special input = (hostParse idna input (!special)).map viewH ∧
    parseHostA idna special input = (hostParse idna input (!special)).map viewH :=
  ⟨parseHost_eq idna special input hne hid, by rw [parseHostA_eq]; exact parseHost_eq idna special input hne hid⟩

open AdaVerif.Model.HostParse AdaVerif.Lemmas.HP in
/-- the host kind is truthful: `host_type` is IPV4 / IPV6 exactly when the Standard's parser produced an IPv4 / IPv6
    address for this text -/
theorem host_kind_truthful (idna : Idna) (special : Bool) (input : Bytes) (hne : input ≠ [])
    (hid : IdnaAt idna (percentDecode input)) :
    (parseHost idna special input).map (·.2) = (hostParse idna input (!special)).map kindOf := by
  rw [parseHost_eq idna special input hne hid]
  cases hostParse idna input (!special) <;> simp [viewH]

open AdaVerif.Model.HostParse AdaVerif.Lemmas.HP in
/-- the two C++ texts take the same decisions (whatever the IDNA function) -/
theorem parse_host_twins (idna : Idna) (special : Bool) (input : Bytes) :
    parseHostA idna special input = parseHost idna special input := parseHostA_eq idna special input

/-- an IDNA function that satisfies `IdnaAt` everywhere (it refuses non-ASCII domains): the hypothesis is satisfiable -/
def asciiIdna : Idna := ⟨fun d => if isAsciiBytes d then some (d.map toLowerByte) else none⟩
open AdaVerif.Lemmas.HP in
theorem asciiIdna_ok (d : Bytes) : IdnaAt asciiIdna d := by
  refine ⟨?_, ?_, ?_⟩
  · intro o ho b hb
    simp only [asciiIdna] at ho
    split at ho
    · rename_i ha
      injection ho with ho; subst ho
      obtain ⟨x, hx, rfl⟩ := List.mem_map.mp hb
      simp only [isAsciiBytes, List.all_eq_true, decide_eq_true_eq] at ha
      exact Lower.ascii x (ha x hx)
    · cases ho
  · intro o ho b hb
    simp only [asciiIdna] at ho
    split at ho
    · rename_i ha
      injection ho with ho; subst ho
      obtain ⟨x, hx, rfl⟩ := List.mem_map.mp hb
      simp only [isAsciiBytes, List.all_eq_true, decide_eq_true_eq] at ha
      exact Lower.not_upper x
    · cases ho
  · intro ha _
    simp [asciiIdna, ha]
open AdaVerif.Model.HostParse in
example : parseHost asciiIdna true (ofStr "EXAMPLE.com") = some (ofStr "example.com", 0) := by decide +kernel
open AdaVerif.Model.HostParse in
example : parseHostA asciiIdna true (ofStr "0X7F.1") = some (ofStr "127.0.0.1", 1) := by decide +kernel
open AdaVerif.Model.HostParse in
example : parseHost asciiIdna true (ofStr "[1::0:0:2]") = some (ofStr "[1::2]", 2) := by decide +kernel
open AdaVerif.Model.HostParse in
example : parseHost asciiIdna true (ofStr "a%20b") = none := by decide +kernel

open AdaVerif.Model.HostKernels in
example : parseIpv4 (ofStr "0x7f.1") = some (ofStr "127.0.0.1") := by decide +kernel
open AdaVerif.Model.HostKernels in
example : parseIpv4 (ofStr "1.2.3.4.") = some (ofStr "1.2.3.4") := by decide +kernel
open AdaVerif.Model.HostKernels in
example : (parseIpv6 (ofStr "1::abcd:1.2.3.4")).map serIpv6 = some (ofStr "[1::abcd:102:304]") := by decide +kernel

theorem ipv4_parse_serialize (a : Nat) (ha : a < 2 ^ 32) : ipv4Parse (ipv4Serialize a) = some a :=
  ipv4_roundtrip a (by simpa using ha)

/-- a serialized IPv4 address is recognised as "ending in a number" (routes to the IPv4 parser) -/
theorem ipv4_serialized_is_number (a : Nat) : endsInANumber (ipv4Serialize a) = true :=
  ipv4_endsInANumber a

theorem ipv4_serialize_shape (a : Nat) :
    splitOn 0x2E (ipv4Serialize a) =
      [natToDec (a / 16777216 % 256), natToDec (a / 65536 % 256), natToDec (a / 256 % 256), natToDec (a % 256)] :=
  split_serialized a

theorem ipv4_part_roundtrip : ∀ n : Fin 256, ipv4Number (natToDec n.val) = some n.val :=
  fun n => (part_facts n).1

/-- IPv4 number forms: hex, octal, decimal, and the failures the Standard prescribes -/
theorem ipv4_number_forms :
    ipv4Number (ofStr "0x1F") = some 31 ∧ ipv4Number (ofStr "0X1f") = some 31 ∧ ipv4Number (ofStr "017") = some 15 ∧
    ipv4Number (ofStr "17") = some 17 ∧ ipv4Number (ofStr "0x") = some 0 ∧ ipv4Number (ofStr "0") = some 0 ∧
    ipv4Number (ofStr "08") = none ∧ ipv4Number (ofStr "1a") = none ∧ ipv4Number (ofStr "") = none ∧
    ipv4Number (ofStr "0x1g") = none := by decide +kernel

/-- IPv4 parser: one to four parts, the bound `last < 256^(5 - n)` on the last one, a trailing dot, hexadecimal parts -/
theorem ipv4_examples :
    ipv4Parse (ofStr "1.2.3.4") = some 16909060 ∧ ipv4Parse (ofStr "1.2.3") = some 16908291 ∧
    ipv4Parse (ofStr "1.65535") = some 16842751 ∧ ipv4Parse (ofStr "4294967295") = some 4294967295 ∧
    ipv4Parse (ofStr "4294967296") = none ∧ ipv4Parse (ofStr "1.2.3.256") = none ∧ ipv4Parse (ofStr "256.1") = none ∧
    ipv4Parse (ofStr "1.2.3.4.") = some 16909060 ∧ ipv4Parse (ofStr "1.2.3.4.5") = none ∧
    ipv4Parse (ofStr "0x7f.1") = some 2130706433 ∧ ipv4Parse (ofStr "1..2") = none := by decide +kernel

/-- IPv6: compression picks the *first* longest run of at least two zero pieces -/
theorem ipv6_examples :
    ipv6Serialize [1, 0, 0, 2, 0, 0, 0, 3] = ofStr "1:0:0:2::3" ∧
    ipv6Serialize [1, 0, 0, 0, 2, 0, 0, 3] = ofStr "1::2:0:0:3" ∧
    ipv6Serialize [1, 0, 0, 2, 0, 0, 3, 4] = ofStr "1::2:0:0:3:4" ∧
    ipv6Serialize [1, 0, 2, 3, 4, 5, 6, 7] = ofStr "1:0:2:3:4:5:6:7" ∧
    ipv6Serialize [0, 0, 0, 0, 0, 0, 0, 0] = ofStr "::" ∧
    ipv6Serialize [0x2001, 0xdb8, 0x100, 0, 0, 0, 0, 1] = ofStr "2001:db8:100::1" ∧
    ipv6Parse (ofStr "2001:db8:85a3::8a2e:370:7334:1") = some [0x2001, 0xdb8, 0x85a3, 0, 0x8a2e, 0x370, 0x7334, 1] ∧
    ipv6Parse (ofStr "::ffff:1.2.3.4") = some [0, 0, 0, 0, 0, 0xffff, 0x102, 0x304] ∧
    ipv6Parse (ofStr "1:2:3:4:5:6:7:8:9") = none ∧ ipv6Parse (ofStr "1::2::3") = none ∧
    ipv6Parse (ofStr "::01.2.3.4") = none ∧ ipv6Parse (ofStr "1:2:3:4:5:6:7::") = some [1, 2, 3, 4, 5, 6, 7, 0] := by
  decide +kernel

/-- a parsed host of a special URL is never the empty host, and domain / opaque host values are
    never empty strings (for every input) -/
theorem host_parse_wellformed (idna : Idna) (s : Bytes) (opq : Bool) (h : Host) (hs : s ≠ [])
    (hp : hostParse idna s opq = some h) : hostWf (some h) = true ∧ h ≠ .empty :=
  hostParse_wf idna s opq h hs hp

theorem dns_length_boundaries :
    verifyDnsLength (List.replicate 63 0x61) = true ∧ verifyDnsLength (List.replicate 64 0x61) = false ∧
    verifyDnsLength (ofStr "a.b.") = true ∧ verifyDnsLength (ofStr "a..b") = false ∧ verifyDnsLength [] = false ∧
    verifyDnsLength (ofStr ".") = false := by decide +kernel

/-- IPv6 round trip for every address (eight 16-bit pieces, 2^128 values): the Standard's parser
    applied to the Standard's serialisation (longest zero run compressed, lower-case hex without leading
    zeros) returns the address -/
theorem ipv6_roundtrip (a : List Nat) (ha : a.length = 8) (hb : ∀ x ∈ a, x < 65536) :
    ipv6Parse (ipv6Serialize a) = some a := V6.ipv6_roundtrip a ha hb

theorem ipv6_host_roundtrip (idna : Idna) (a : List Nat) (ha : a.length = 8) (hb : ∀ x ∈ a, x < 65536) (opq : Bool) :
    hostParse idna (Host.serialize (.ipv6 a)) opq = some (.ipv6 a) :=
  Lemmas.ipv6_host_fixed idna a ha hb opq

example : ipv6Serialize [0x2001, 0xdb8, 0, 0, 1, 0, 0, 1] = ofStr "2001:db8::1:0:0:1" := by decide +kernel
example : ipv6Serialize [0, 0, 0, 0, 0, 0, 0, 0] = ofStr "::" := by decide +kernel
example : ipv6Serialize [1, 0, 0, 0, 0, 0, 0, 0] = ofStr "1::" := by decide +kernel

/-- `is_forbidden_host_code_point_table` (like the two tables below, regenerated from src/unicode.cpp on every run) is the
    Standard's forbidden host code points -/
theorem forbidden_host_table : ∀ b : UInt8, (tget Gen.forbiddenHostTable b.toNat != 0) = isForbiddenHost b :=
  HP.hostCp_eq

/-- `is_forbidden_domain_code_point_table` is the Standard's forbidden domain code points on ASCII; every
    non-ASCII byte is marked too (the table is applied to the result of domain-to-ASCII, where a
    non-ASCII byte cannot legitimately occur) -/
theorem forbidden_domain_table : ∀ b : UInt8,
    (tget Gen.forbiddenDomainTable b.toNat != 0) = (isForbiddenDomain b || decide (b.toNat ≥ 128)) :=
  HP.domainCp_eq

/-- the combined table used by the host fast path: forbidden domain code point, or an upper-case
    letter (which needs lower-casing) -/
theorem forbidden_domain_or_upper_table : ∀ b : UInt8,
    (tget Gen.forbiddenDomainOrUpperTable b.toNat != 0) = (isForbiddenDomain b || decide (b.toNat ≥ 128) || isAsciiUpper b) ∧
    ((tget Gen.forbiddenDomainOrUpperTable b.toNat == 2) = isAsciiUpper b) ∧
    tget Gen.forbiddenDomainOrUpperTable b.toNat ≤ 2 := by
  intro b
  rw [HP.orUpper_eq, HP.domainCp_eq]
  cases isAsciiUpper b <;> cases (isForbiddenDomain b || decide (b.toNat ≥ 128)) <;> decide

end AdaVerif.Props.C10
