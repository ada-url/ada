import AdaVerif.Gen.ParserExits
import AdaVerif.Gen.Tables
import AdaVerif.Lemmas.Guard
import AdaVerif.Lemmas.TableWalk
import AdaVerif.Lemmas.ParseBase
/-
C09 — The configured maximum length bounds every URL the library hands out.

* `Gen.parserExits` is regenerated from /repo/src/parser.cpp on every run: one row per
  `return url;` of `parse_url_impl` with its syntactic context.
* the setter layer is the `guarded` model (Model/Guard.lean): sub-parser on a working state,
  final size check, rollback.
The correspondence (checks/props/c09.py) runs every generated case under limits within ±2 of
every size involved and compares each step with the same step on a copy with the limit lifted.
-/
namespace AdaVerif.Props.C09
open AdaVerif AdaVerif.Model AdaVerif.Lemmas

/-- An exit can hand out a *valid stored* URL only if none of these syntactic facts holds. -/
def mayReturnValidStored (e : Gen.ParserExit) : Bool :=
  !e.notStore && !e.setsInvalid && !e.afterFailedCall

/-- The one exit that is dead code: the tail of the AUTHORITY do-while loop.  It is reached only
    if the byte found by `find_authority_delimiter(_special)` is none of the delimiters handled by
    the two preceding branches - impossible by `authority_delimiters_handled` below. -/
def isDeadAuthorityTail (e : Gen.ParserExit) : Bool := e.state == "AUTHORITY" && e.ord == 1

/-- every exit of `parse_url_impl` through which a valid, stored URL can leave is dominated by
    the normalized-size check (re-proved against the current source on every run). -/
theorem every_valid_exit_is_size_checked :
    ∀ e ∈ Gen.parserExits, mayReturnValidStored e = true → (e.sizeChecked = true ∨ isDeadAuthorityTail e = true) := by
  decide

/-- the exit table has the audited shape (a new early `return url;` changes it) -/
theorem exit_table_shape :
    Gen.parserExits.map (fun e => (e.state, e.ord)) =
      [("PRE", 0), ("PRE", 1), ("SCHEME", 0), ("SCHEME", 1), ("NO_SCHEME", 0), ("NO_SCHEME", 1), ("AUTHORITY", 0),
       ("AUTHORITY", 1), ("QUERY", 0), ("HOST", 0), ("HOST", 1), ("HOST", 2), ("OPAQUE_PATH", 0), ("PORT", 0),
       ("PATH_START", 0), ("PATH_START", 1), ("PATH", 0), ("FILE_HOST", 0), ("POST", 0)] := by decide

/-- the byte at which `find_authority_delimiter(_special)` stops is always one that the AUTHORITY
    state's first two branches handle (`@`, or `/ ?` and `\` for special URLs): the loop tail is dead -/
theorem authority_delimiters_handled : ∀ b : UInt8,
    (tget Gen.authorityDelimiterSpecial b.toNat = 1 ↔ (b = 0x40 ∨ b = 0x2F ∨ b = 0x5C ∨ b = 0x3F)) ∧
    (tget Gen.authorityDelimiter b.toNat = 1 ↔ (b = 0x40 ∨ b = 0x2F ∨ b = 0x3F)) ∧
    tget Gen.authorityDelimiterSpecial b.toNat ≤ 1 ∧ tget Gen.authorityDelimiter b.toNat ≤ 1 := by
  have hs := forall_tget (T := Gen.authorityDelimiterSpecial)
    (Q := fun b v => (v = 1 ↔ (b = 0x40 ∨ b = 0x2F ∨ b = 0x5C ∨ b = 0x3F)) ∧ v ≤ 1) (by decide +kernel) (by decide +kernel)
  have hn := forall_tget (T := Gen.authorityDelimiter)
    (Q := fun b v => (v = 1 ↔ (b = 0x40 ∨ b = 0x2F ∨ b = 0x3F)) ∧ v ≤ 1) (by decide +kernel) (by decide +kernel)
  exact fun b => ⟨(hs b).1, (hn b).1, (hs b).2, (hn b).2⟩

/-- a guarded operation never leaves an href longer than L -/
theorem setter_bounded {σ : Type} (size : σ → Nat) (L : Nat) (run : σ → Option σ) (s : σ) (h : size s ≤ L) :
    size (guarded size L run s).1 ≤ L := guarded_bounded size L run s h

/-- any sequence of guarded operations keeps the bound -/
theorem history_bounded_any {σ : Type} (size : σ → Nat) (L : Nat) (ops : List (σ → Option σ)) (s : σ)
    (h : size s ≤ L) : size (history size L ops s) ≤ L := history_bounded size L ops s h

/-- an operation that fails leaves the URL exactly as it was -/
theorem setter_atomic {σ : Type} (size : σ → Nat) (L : Nat) (run : σ → Option σ) (s : σ)
    (h : (guarded size L run s).2 = false) : (guarded size L run s).1 = s := guarded_atomic size L run s h

/-- an operation whose result fits behaves exactly as with no limit (any larger limit) -/
theorem setter_transparent {σ : Type} (size : σ → Nat) (L L' : Nat) (run : σ → Option σ) (s s' : σ)
    (hr : run s = some s') (h : size s' ≤ L) (h' : size s' ≤ L') :
    guarded size L run s = guarded size L' run s := guarded_transparent size L run s s' L' hr h h'

/-- an operation whose result would exceed L fails and changes nothing -/
theorem setter_refuses_oversize {σ : Type} (size : σ → Nat) (L : Nat) (run : σ → Option σ) (s s' : σ)
    (hr : run s = some s') (h : L < size s') : guarded size L run s = (s, false) := by
  unfold guarded
  simp only [hr]
  split
  · omega
  · rfl

example : ∃ e ∈ Gen.parserExits, mayReturnValidStored e = true ∧ e.sizeChecked = true := by decide
example : (Gen.parserExits.filter mayReturnValidStored).length = 6 := by decide
example : guarded List.length 4 (fun (s : List Nat) => some (s ++ [9, 9])) [1, 2, 3] = ([1, 2, 3], false) := by decide
example : guarded List.length 5 (fun (s : List Nat) => some (s ++ [9, 9])) [1, 2, 3] = ([1, 2, 3, 9, 9], true) := by decide

/-! The parser of `ada::url` under a limit.
`Model/ParseSpecial.lean` (`limited`) puts the entry check on the raw input and `enforce_max_length()` around the state
machine that C01 proves equal to the Standard's parser; the exit table above is what justifies "around": every exit
through which a valid URL leaves is dominated by the size check.  The limited model is run against `ada::parse<ada::url>`
under `set_max_input_length` in C01's L1 runs (about a third of the calls carry a limit within a few bytes of the sizes
involved). -/

open AdaVerif.Model.ParseSpecial AdaVerif.Model.UrlRec in
/-- whatever the limited parser hands out fits the limit, and so did the input - without and with a base -/
theorem parser_result_within_limit (idna : Spec.Idna) (L : Nat) (input : Bytes) (r : Rec) :
    (parseNoBaseL idna L input = .ok r → getHrefSize r ≤ L ∧ input.length ≤ L) ∧
    (∀ b, parseWithBaseL idna L b input = .ok r → getHrefSize r ≤ L ∧ input.length ≤ L) := by
  have key : ∀ o, limited L input o = .ok r → getHrefSize r ≤ L ∧ input.length ≤ L := by
    intro o h
    unfold limited at h
    split at h
    · cases h
    · rename_i hin
      split at h
      · rename_i r'
        split at h
        · cases h
        · rename_i hs
          injection h with h
          subst h
          exact ⟨by omega, by omega⟩
      · cases h
  exact ⟨key _, fun b => key _⟩

open AdaVerif.Model.ParseSpecial AdaVerif.Lemmas.PB in
/-- the limit changes nothing but refusals: within it, the limited parser answers what the Standard's parser answers
    (C01's theorem, same side conditions), and it refuses exactly when the input or the normalized href is too long -/
theorem parser_limit_transparent (idna : Spec.Idna) (L : Nat) (input : Bytes) (hid : ∀ d, HP.IdnaAt idna d)
    (hclean : AdaVerif.Lemmas.BR.bracketOk (schemeSpecial input) (hostStart input) = true) :
    parseNoBaseL idna L input = outOfL L input (Spec.parse idna input none) := by
  unfold parseNoBaseL
  rw [PS.parseNoBase_spec idna input hid hclean, limited_outOf]

/-- worked instance: "http://h/a b" (12 bytes) normalizes to 14 bytes -/
example : AdaVerif.Model.ParseSpecial.parseNoBaseL ⟨fun _ => none⟩ 13 (ofStr "http://h/a b") = .invalid ∧
    AdaVerif.Model.ParseSpecial.parseNoBaseL ⟨fun _ => none⟩ 14 (ofStr "http://h/a b") =
      AdaVerif.Model.ParseSpecial.parseNoBase ⟨fun _ => none⟩ (ofStr "http://h/a b") ∧
    AdaVerif.Model.ParseSpecial.parseNoBase ⟨fun _ => none⟩ (ofStr "http://h/a b") ≠ .invalid := by decide +kernel

end AdaVerif.Props.C09
