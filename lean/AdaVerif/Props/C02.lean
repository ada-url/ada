import AdaVerif.Lemmas.Simd
import AdaVerif.Lemmas.Scheme
import AdaVerif.Lemmas.SearchParams
import AdaVerif.Lemmas.Decode
import AdaVerif.Gen.Simd
/-
C02 — Memory-safe, exception-free and terminating on arbitrary bytes.

A Lean theorem cannot establish memory safety of C++.  What the logic carries is proved here, for
all inputs: every *modelled* index stays inside its table or buffer, every modelled loop has an
explicit decreasing measure (all model functions are total Lean definitions), and the comparator
handed to std::stable_sort is a strict weak order.  The runtime part - uninitialised reads, the
allocator, exceptions, leaks, real termination - is explored by running every public entry point on
arbitrary bytes in exact-size heap buffers under ASan+UBSan+LSan with a watchdog
(checks/props/c02.py); that part is exploration, not proof (claimed partial).
-/
namespace AdaVerif.Props.C02
open AdaVerif AdaVerif.Model AdaVerif.Lemmas

/-- `hex + 4*b` with three bytes appended never leaves the 1024-byte `hex[]` table -/
theorem hex_row_in_bounds (b : UInt8) : 4 * b.toNat + 2 < Gen.hexTable.length := by
  have h : Gen.hexTable.length = 1024 := by decide +kernel
  have := b.toNat_lt
  omega

/-- `bit_at(a, i)` reads `a[i >> 3]` with `i` a byte: always inside the 32-byte bitmap -/
theorem bitmap_index_in_bounds (b : UInt8) : b.toNat >>> 3 < 32 := by
  have := b.toNat_lt
  simp only [Nat.shiftRight_eq_div_pow]
  omega

/-- the perfect-hash index `(2n + c) & 7` is a valid index of the 8-entry scheme tables -/
theorem scheme_hash_in_bounds (s : Bytes) :
    schemeHash s < Gen.isSpecialList.length ∧ schemeHash s < Gen.schemeKeys.length ∧
    schemeHash s < Gen.specialPorts.length := by
  have h : schemeHash s < 8 := Nat.mod_lt _ (by decide)
  have : Gen.isSpecialList.length = 8 ∧ Gen.schemeKeys.length = 8 ∧ Gen.specialPorts.length = 8 := by decide
  omega

/-- `hex_to_binary_table[c - '0']` is indexed only under the hex-digit guard, and then in range -/
theorem hex_to_binary_in_bounds : ∀ b : UInt8, isAsciiHexDigit b = true →
    b.toNat - 48 < Gen.hexToBinaryTable.length := hexToBinary_index

/-- byte-indexed 256-entry tables are exactly 256 long (no index can leave them) -/
theorem byte_tables_are_256 :
    Gen.kHostClass.length = 256 ∧ Gen.kRest.length = 256 ∧ Gen.pathSignatureTable.length = 256 ∧
    Gen.forbiddenHostTable.length = 256 ∧ Gen.forbiddenDomainTable.length = 256 ∧
    Gen.forbiddenDomainOrUpperTable.length = 256 ∧ Gen.alnumPlusTable.length = 256 ∧ Gen.unhexTable.length = 256 ∧
    Gen.authorityDelimiter.length = 256 ∧ Gen.authorityDelimiterSpecial.length = 256 ∧
    Gen.charClassTable.length = 256 ∧ Gen.escapePatternTable.length = 256 ∧ Gen.escapeRegexpTable.length = 256 := by
  decide +kernel

/-- SIMD: every 16-byte load of the vector path lies inside `[0, n)` (tail re-load at `n - 16`) -/
theorem simd_loads_in_bounds (v : Bytes) (f i : Nat) (h16 : 16 ≤ v.length) :
    ∀ s ∈ loadOffsets v f i, s + 16 ≤ v.length := loads_in_bounds v f i h16

/-- the vector path is entered only with at least 16 bytes after `location`, so `n - 16 ≥ location`:
    the tail block never reaches back before the start position -/
theorem simd_tail_not_before_start (v : Bytes) (loc : Nat) (h : ¬ (v.length - loc < 16)) (hl : loc ≤ v.length) :
    loc ≤ v.length - 16 := by omega

/-- `percent_decode` reads `pointer[1]`, `pointer[2]` only when at least two bytes remain: in the
    model this is the pattern `ch :: h1 :: h2 :: _`; on shorter remainders nothing beyond the end is
    inspected and the byte is copied (so the output never exceeds the input) -/
theorem percent_decode_no_overread (s : Bytes) : (decodeLoop s).length ≤ s.length := by
  fun_induction decodeLoop s
  -- every step writes one byte and consumes one or three
  all_goals simp at *
  all_goals omega

/-- `form_urlencoded_decode` writes into a buffer of the input's size: the output never exceeds it -/
theorem form_decode_fits (s : Bytes) : (formDecodeLoop s).length ≤ s.length := by
  fun_induction formDecodeLoop s
  all_goals simp at *
  all_goals omega

/-- the UTF-8 → UTF-16 decoder of `sort()` always consumes input (terminates on malformed bytes) -/
theorem sort_decoder_progress (c : USP.Cursor) (u : Nat) (c' : USP.Cursor) (h : USP.nextUnit c = some (u, c')) :
    cmeasure c' < cmeasure c := nextUnit_decreases c u c' h

/-- the comparator given to `std::stable_sort` is a strict weak order - otherwise the call is UB -/
theorem sort_comparator_is_strict_weak_order :
    (∀ x : Model.Pair, USP.keyLess x x = false) ∧
    (∀ x y z : Model.Pair, keyLe x y = true → keyLe y z = true → keyLe x z = true) ∧
    (∀ x y : Model.Pair, (keyLe x y || keyLe y x) = true) :=
  ⟨keyLess_irrefl, keyLe_trans, keyLe_total⟩

/-- `branchless_load5` is called only when the sizes are equal to a table entry, i.e. at most 5
    bytes: the five conditional loads stay inside the string -/
theorem load5_only_short : ∀ l ∈ Gen.isSpecialList, l.length ≤ 5 := by decide

end AdaVerif.Props.C02
