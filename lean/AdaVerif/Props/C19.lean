import AdaVerif.Lemmas.ParseInv
import AdaVerif.Lemmas.ParseAggBase
import AdaVerif.Lemmas.ParseValid
/-
C19 — Every URL object satisfies the Standard's record invariants.

`RecInv` (Spec/RecInv.lean) is the decidable conjunction stated in the property.  The theorems
are about the Lean Spec of the parser and of the API setters (validated against WPT and compared
with both C++ URL types on every run); the same predicate is evaluated on the *implementation's*
objects after every operation of every generated history (checks/props/c19.py).
-/
namespace AdaVerif.Props.C19
open AdaVerif AdaVerif.Spec AdaVerif.Lemmas

/-- Parsing establishes the invariants, for every input and every base satisfying them -/
theorem parse_establishes (idna : Idna) (input : Bytes) (base : Option Url) (u : Url)
    (hb : ∀ b, base = some b → RecInv b = true) (h : parse idna input base = some u) : RecInv u = true :=
  parse_inv idna input base u hb h

theorem parse_nobase_establishes (idna : Idna) (input : Bytes) (u : Url) (h : parse idna input none = some u) :
    RecInv u = true :=
  parse_inv idna input none u (fun _ hb => by cases hb) h

/-- Every API setter preserves the invariants, for every value -/
theorem setter_preserves (idna : Idna) (u : Url) (op : Op) (v : Bytes) (h : RecInv u = true) :
    RecInv (applyOp idna u op v) = true := by
  cases op <;> simp only [applyOp]
  · unfold setHref
    split
    · rename_i n hn; exact parse_nobase_establishes idna v n hn
    · exact h
  · exact recinv_protocol u v h
  · exact recinv_username u v h
  · exact recinv_password u v h
  · exact recinv_host false idna u v h
  · exact recinv_host true idna u v h
  · exact recinv_port u v h
  · exact recinv_pathname u v h
  · exact recinv_search u v h
  · exact recinv_hash u v h

theorem history_preserves (idna : Idna) (u : Url) (ops : List (Op × Bytes)) (h : RecInv u = true) :
    RecInv (ops.foldl (fun s o => applyOp idna s o.1 o.2) u) = true := by
  induction ops generalizing u with
  | nil => exact h
  | cons o rest ih => exact ih _ (setter_preserves idna u o.1 o.2 h)

/-- every object reachable by a parse against a parsed base, followed by setters -/
theorem reachable_inv (idna : Idna) (baseInput input : Bytes) (b u : Url) (ops : List (Op × Bytes))
    (hb : parse idna baseInput none = some b) (hu : parse idna input (some b) = some u) :
    RecInv (ops.foldl (fun s o => applyOp idna s o.1 o.2) u) = true := by
  apply history_preserves
  apply parse_establishes idna input (some b) u _ hu
  intro b' hb'; injection hb' with hb'; subst hb'
  exact parse_nobase_establishes idna baseInput b hb

/-- a non-opaque path serializes to nothing or to something that begins with '/' (true of every record) -/
theorem path_shape (u : Url) (h : u.isOpaque = false) :
    u.pathSerialized = [] ∨ u.pathSerialized.head? = some 0x2F := pathSerialized_shape u h

theorem scheme_lowercase (idna : Idna) (input : Bytes) (u : Url) (h : parse idna input none = some u) :
    schemeOk u.scheme = true := schemeOk_of_recinv u (parse_nobase_establishes idna input u h)

open AdaVerif.Model AdaVerif.Lemmas in
/-- The objects of the implementation, through the parser theorems of C01 / C04: whatever `ada::parse` hands out without a
    base - as an `ada::url` (its fields) or as a `url_aggregator` (its buffer and offsets) - is the image of a record of the
    Standard that satisfies the invariants, whose path segments contain no '/', whose user name contains no ':' and whose
    host does not start with '@'.  (That makes it a good base object: `Lemmas.PAB.parsed_baseRec`.) -/
theorem parsed_objects_hold_invariant_records (idna : Idna) (input : Bytes) (hid : ∀ d, HP.IdnaAt idna d)
    (hclean : AdaVerif.Lemmas.BR.bracketOk (ParseSpecial.schemeSpecial input) (ParseSpecial.hostStart input) = true) :
    (∀ r, ParseSpecial.parseNoBase idna input = .ok r →
      ∃ u, r = UR.recOf u ∧ RecInv u = true ∧ PP.NoSlash u.path ∧ PAB.CredHostOk u) ∧
    (∀ a, ParseAgg.parseNoBaseA idna input = some a →
      ∃ u, a = Agg.layout (UrlRec.toL (UR.recOf u)) ∧ RecInv u = true ∧ PP.NoSlash u.path ∧ PAB.CredHostOk u) := by
  have h1 := PS.parseNoBase_spec idna input hid hclean
  have h2 := PA.parseNoBaseA_eq idna input hid
  rw [h1] at h2
  rw [h1, h2]
  cases hp : parse idna input none with
  | none =>
    refine ⟨?_, ?_⟩
    · intro r h; simp [PS.outOf] at h
    · intro a h; simp [PS.outOf, PA.aggOf] at h
  | some u =>
    have hinv := parse_inv idna input none u (by intro x hx; cases hx) hp
    obtain ⟨hseg, hch⟩ := PAB.parse_ok idna input u hp
    refine ⟨fun r h => ?_, fun a h => ?_⟩
    · simp only [PS.outOf] at h; injection h with h; exact ⟨u, h.symm, hinv, hseg, hch⟩
    · simp only [PS.outOf, PA.aggOf] at h; injection h with h; exact ⟨u, h.symm, hinv, hseg, hch⟩

/-! Non-vacuity: a concrete parse satisfies the hypotheses, and the invariant is not trivially true. -/
def noIdna : Idna := ⟨fun _ => none⟩
example : (parse noIdna (ofStr "HTTPS://user:pw@Example.COM:8080/a/../b?q#f") none).map Url.href
    = some (ofStr "https://user:pw@example.com:8080/b?q#f") := by decide +kernel
example : (parse noIdna (ofStr "https://example.com:8080/") none).map RecInv = some true := by decide +kernel
example : RecInv { scheme := bHttp, host := some (.domain (ofStr "h")), port := some 80, path := [[]] } = false := by
  decide +kernel
example : RecInv { scheme := bHttp, host := none, path := [[]] } = false := by decide +kernel

end AdaVerif.Props.C19
