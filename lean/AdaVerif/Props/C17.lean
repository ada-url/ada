import AdaVerif.Gen.CApi
import AdaVerif.Lemmas.StrKey
/-
C17 — The C API is a faithful, crash-free wrapper of the C++ API.

`Gen/CApi.lean` (re-extracted from src/ada_c.cpp and include/ada_c.h on every run) has one row per
extern "C" function.  The theorems are table facts: every function that dereferences a result handle
is guarded, the guard returns the neutral value of the return type, the definitions and the header
declare the same functions.  Faithfulness (same bytes, lengths, offsets as the C++ call) and
exactly-once release are decided by running the same histories on a C handle and a C++ object
(checks/props/c17.py, ASan/LSan build).
-/
namespace AdaVerif.Props.C17
open AdaVerif

/-- the model of a guarded wrapper: an invalid handle yields the default, a valid one the C++ result -/
def wrap {α β : Type} (d : β) (op : α → β) : Option α → β
  | none => d
  | some u => op u

theorem wrap_valid {α β : Type} (d : β) (op : α → β) (u : α) : wrap d op (some u) = op u := rfl
theorem wrap_invalid {α β : Type} (d : β) (op : α → β) : wrap d op none = d := rfl

/-- every function that dereferences its handle checks validity first, and returns the neutral
    value of its return type on an invalid handle (kinds: 1 bool/false, 2 ada_string/{nullptr,0},
    3 string pair, 4 owned string/{nullptr,0}, 5 integer/0, 6 pointer/nullptr, 7 void/skip,
    8 handle/fresh empty freeable handle) -/
theorem every_deref_is_guarded :
    ∀ f ∈ Gen.capi, f.derefs = true → f.guarded = true ∧ f.defaultKind = f.retKind ∧ f.retKind ≠ 0 := by
  decide

-- names are compared through their numeric keys from here on
attribute [local instance] Lemmas.strDecEq

private theorem same_names :
    (∀ n ∈ Gen.capiHeader, n ∈ Gen.capi.map (·.name)) ∧
    ∀ f ∈ Gen.capi, f.name = "ada_string_create" ∨ f.name ∈ Gen.capiHeader := by decide +kernel

/-- the header declares exactly the functions that are defined (`ada_string_create` is a helper
    defined only in the .cpp) -/
theorem header_matches_definitions :
    ∀ n ∈ Gen.capiHeader, n ∈ Gen.capi.map (·.name) := same_names.1
theorem definitions_are_declared :
    ∀ f ∈ Gen.capi, f.name = "ada_string_create" ∨ f.name ∈ Gen.capiHeader := same_names.2

/-- each wrapper delegates to the C++ member its name says -/
theorem delegates_by_name : ∀ f ∈ Gen.capi, f.nameMatchesDelegate = true := by decide

/-- owned strings are allocated in exactly the functions that return `ada_owned_string`, and one
    function releases them -/
theorem owned_string_functions :
    (Gen.capi.filter (fun f => f.retKind == 4)).map (·.name) =
      ["ada_get_origin", "ada_idna_to_unicode", "ada_idna_to_ascii", "ada_search_params_to_string"] ∧
    (Gen.capi.filter (fun f => f.frees)).map (·.name) =
      ["ada_free", "ada_free_owned_string", "ada_free_search_params", "ada_free_strings",
       "ada_free_search_params_keys_iter", "ada_free_search_params_values_iter",
       "ada_free_search_params_entries_iter"] := by decide +kernel

example : (Gen.capi.filter (·.derefs)).length > 50 := by decide
example : wrap 0 (fun (s : List Nat) => s.length) (some [1, 2]) = 2 := rfl

end AdaVerif.Props.C17
