import AdaVerif.Model.Pattern
import AdaVerif.Lemmas.PatternCanon
/-
C14 — URLPattern matching is coherent and independent of internal shortcuts.

Model/Pattern.lean: one component's shortcut classification and fast paths, over an abstract regex
provider with law fields for the three regex shapes the shortcuts replace.  No axioms: theorems
take `Lawful P`, and a concrete matcher for that subset is shown to be lawful (non-vacuity).
checks/props/c14.py compares, for every generated (pattern, options, input, base), test() with
exec(), the reported component inputs with the URL's components, and every component's
fast_match() with a regular-expression evaluation of the same part list through std::regex.
-/
namespace AdaVerif.Props.C14
open AdaVerif AdaVerif.Model.Pattern

/-- `fast_test` is true exactly when `fast_match` returns a result, for every component type -/
theorem test_iff_match (P : Provider) (hP : Lawful P) (c : Component) (x : Bytes) :
    fastTest P c x = (fastMatch P c x).isSome := by
  unfold fastTest fastMatch
  cases c.type
  · -- empty
    by_cases h : x.isEmpty = true <;> simp [h]
  · -- exact match
    by_cases h : (x == c.exact) = true <;> simp [h]
  · -- full wildcard
    by_cases h : c.names.isEmpty = true <;> simp [h]
  · exact hP.matches_search _ _ _

theorem mapM_isSome {α β : Type} (f : α → Option β) (l : List α) :
    (l.mapM f).isSome = l.all (fun a => (f a).isSome) := by
  induction l with
  | nil => rfl
  | cons a t ih =>
    simp only [List.mapM_cons, List.all_cons]
    cases h : f a with
    | none => simp
    | some v =>
      cases h2 : List.mapM f t with
      | none => rw [h2] at ih; simp [← ih]
      | some w => rw [h2] at ih; simp [← ih]

/-- `test` (conjunction of `fast_test`) is true exactly when `match` (sequence of `fast_match`)
    yields a result, over all eight components -/
theorem test_all_iff_match_all (P : Provider) (hP : Lawful P) (cs : List Component) (xs : List Bytes) :
    testAll P cs xs = (matchAll P cs xs).isSome := by
  unfold testAll matchAll
  rw [mapM_isSome]
  congr 1
  funext cx
  exact test_iff_match P hP cx.1 cx.2

/-- the answer and the captured groups do not depend on the shortcut: for every part list
    that is classified EMPTY / EXACT_MATCH / FULL_WILDCARD, `fast_match` returns exactly what the
    regular expression generated from the same part list returns (inputs without line terminators
    for the wildcard, which is what the URL parser / canonicalisers produce) -/
theorem shortcut_eq_regex (P : Provider) (hP : Lawful P) (parts : List Part) (x : Bytes)
    (hx : ∀ b ∈ x, isLineTerminator b = false) (ht : classify parts false ≠ .regexp) :
    fastMatch P (compile parts false) x = slowMatch P parts false x := by
  unfold slowMatch
  match parts with
  | [] =>
    simp [compile, classify, fastMatch, regexOf, hP.empty_]
  | [p] =>
    unfold classify at ht
    by_cases h1 : (p.type == .fixedText && p.modifier == .none) = true
    · have : classify [p] false = .exactMatch := by simp [classify, h1]
      simp [compile, this, fastMatch, regexOf, h1, hP.literal]
    · by_cases h2 : (p.type == .fullWildcard && p.modifier == .none && p.pre.isEmpty && p.suf.isEmpty) = true
      · have hc : classify [p] false = .fullWildcard := by
          simp only [classify, Bool.not_false, Bool.and_true]
          simp [h1, h2]
        simp only [compile, hc, fastMatch, regexOf]
        simp [h1, h2, hP.wildcard x hx]
      · exfalso; apply ht
        simp only [Bool.not_false, Bool.and_true]
        simp [h1, h2]
  | a :: b :: t => exact absurd rfl ht

/-- the group name list has one entry per captured group, also on the shortcut paths -/
theorem names_match_groups (P : Provider) (hP : Lawful P) (parts : List Part) (x : Bytes)
    (hx : ∀ b ∈ x, isLineTerminator b = false) (ht : classify parts false ≠ .regexp) (g : List (Option Bytes))
    (hm : fastMatch P (compile parts false) x = some g) : g.length = (compile parts false).names.length := by
  match parts with
  | [] => simp [compile, classify, fastMatch] at hm ⊢; exact hm.2
  | [p] =>
    by_cases h1 : (p.type == .fixedText && p.modifier == .none) = true
    · have hc : classify [p] false = .exactMatch := by simp [classify, h1]
      simp only [compile, hc, fastMatch] at hm ⊢
      split at hm <;> simp_all
    · by_cases h2 : (p.type == .fullWildcard && p.modifier == .none && p.pre.isEmpty && p.suf.isEmpty) = true
      · have hc : classify [p] false = .fullWildcard := by
          simp only [classify, Bool.not_false, Bool.and_true]; simp [h1, h2]
        simp only [compile, hc, fastMatch] at hm ⊢
        simp at hm ⊢; subst hm; rfl
      · exfalso; apply ht
        simp only [classify, Bool.not_false, Bool.and_true]; simp [h1, h2]
  | a :: b :: t => exact absurd rfl ht

/-- EXACT_MATCH is never chosen when `ignoreCase` is set (it would compare case-sensitively) -/
theorem no_exact_match_when_ignore_case (parts : List Part) : classify parts true ≠ .exactMatch := by
  unfold classify
  split
  · simp
  · simp only [Bool.not_true, Bool.and_false, Bool.false_eq_true, ↓reduceIte]
    split <;> simp
  · simp

def toyProvider : Provider where
  search r _ x :=
    match r with
    | .emptyAnchored => if x.isEmpty then some [] else none
    | .literalAnchored lit => if x = lit then some [] else none
    | .wildcardAnchored => if x.all (fun b => !isLineTerminator b) then some [some x] else none
    | .other _ => none
  isMatch r ic x :=
    match r with
    | .emptyAnchored => x.isEmpty
    | .literalAnchored lit => decide (x = lit)
    | .wildcardAnchored => x.all (fun b => !isLineTerminator b)
    | .other _ => false

theorem toy_lawful : Lawful toyProvider where
  empty_ x := rfl
  literal lit x := rfl
  wildcard x hx := by
    have : x.all (fun b => !isLineTerminator b) = true := by
      simp only [List.all_eq_true, Bool.not_eq_true']; exact hx
    simp only [toyProvider, this, ↓reduceIte]
  matches_search r ic x := by
    -- for each of the four shapes `isMatch` is the condition of the `if` in `search`
    cases r <;> simp [toyProvider] <;> split <;> simp_all

example : fastMatch toyProvider (compile [⟨.fullWildcard, [], .none, [0x72], [], []⟩] false) [0x61, 0x2F, 0x62] =
    some [some [0x61, 0x2F, 0x62]] := by decide +kernel

open AdaVerif.Spec AdaVerif.Model.Agg AdaVerif.Lemmas AdaVerif.Lemmas.AggL AdaVerif.Model.PatternCanon in
/-- the component inputs `match()` / `test()` read off the parsed input are the components of the URL it denotes: for the
    single buffer that holds the Standard's record `u` (what `ada::parse<url_aggregator>` leaves - C01 / C04), the eight strings
    taken by `get_protocol()` minus ':', `get_username()`, `get_password()`, `get_hostname()`, `get_port()`, `get_pathname()`,
    `get_search()` minus '?' (when `has_search()`), `get_hash()` minus '#' (when `has_hash()`) are the scheme, the credentials,
    the serialised host (empty when null), the port in decimal (empty when null), the serialised path, the query and the
    fragment (empty when null).  The host condition says a serialised host never starts with '@' (`PA.host_no_at`: true of
    every host the host parser returns). -/
theorem url_string_inputs_are_components (u : Url) (hinv : RecInv u = true)
    (hh : ∀ h, u.host = some h → h.serialize.headD 0 ≠ 0x40) :
    urlInputs (layout (ofUrl u)) =
      [u.scheme, u.username, u.password, (match u.host with | some h => h.serialize | none => []),
       (match u.port with | some p => natToDec p | none => []), u.pathSerialized, u.query.getD [], u.fragment.getD []] := by
  have ok := credOk_of_recInv u hinv
  have hna := noAuthNoCred_ofUrl u ok
  have hpd : (ofUrl u).port.isSome = true → (ofUrl u).dashdot = false := by
    intro hp
    cases hhost : u.host with
    | none =>
      have : u.port = none := (ok.hostless hhost).2.2
      simp [ofUrl, this] at hp
    | some h => simp [ofUrl, hhost]
  have hhd : (ofUrl u).user = [] → (ofUrl u).pass = [] → (ofUrl u).host.headD 0 ≠ 0x40 := by
    intro _ _
    cases hhost : u.host with
    | none => simp [ofUrl, hhost]
    | some h => simpa [ofUrl, hhost] using hh h hhost
  rw [PC.urlInputs_layout (ofUrl u) hna hpd hhd]
  cases hp : u.port <;> cases hhost : u.host <;> simp [ofUrl, hp, hhost]

open AdaVerif.Spec AdaVerif.Model.Agg AdaVerif.Lemmas.AggL AdaVerif.Model.PatternCanon in
example :
    let u : Url := { scheme := ofStr "https", username := ofStr "u", host := some (.domain (ofStr "h.example")), port := some 8080,
                     path := [ofStr "a", ofStr "b"], query := some (ofStr "q=1"), fragment := some [] }
    RecInv u = true ∧
    urlInputs (layout (ofUrl u)) = [ofStr "https", ofStr "u", [], ofStr "h.example", ofStr "8080", ofStr "/a/b", ofStr "q=1", []] := by
  decide +kernel

end AdaVerif.Props.C14
