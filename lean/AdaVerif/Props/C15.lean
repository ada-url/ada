import AdaVerif.Model.Pattern
import AdaVerif.Spec.Setters
import AdaVerif.Spec.Pattern
import AdaVerif.Lemmas.Ascii
import AdaVerif.Lemmas.PatternCanon
import AdaVerif.Props.C01
/-
C15 — URLPattern construction canonicalises components exactly as the URL parser does.

Proved here:
* what the `char_class_table` classes (regenerated from the source) guarantee about every byte, and that the port
  canonicaliser's lexicographic comparison is numeric comparison;
* the canonicalisation callbacks themselves (`Model/PatternCanon.lean`, statement-by-statement models of
  `canonicalize_username / _password / _search / _hash / _ipv6_hostname / _opaque_pathname / _port / _port_with_protocol /
  _pathname / _hostname / _protocol`, run against the real functions on every check - checks/patcanoncorr.py) are the URL
  Pattern Standard's callbacks (`Spec/Pattern.lean`, over `Spec.parse` and the Spec setters) for every value: the eight
  callbacks that do not go through a URL object unconditionally; `canonicalize_pathname` on both routes (its shortcut for
  values made of CHAR_SIMPLE_PATHNAME bytes, and dummy URL + `set_pathname` + `get_pathname` through
  `AggL.setPathname_end_to_end` of Lemmas/AggSetPathname.lean) whenever the dummy URL and the result fit the configured
  maximum length; the shortcuts of
  `canonicalize_hostname` and `canonicalize_protocol` (their slow routes are compositions of models proved elsewhere:
  `protocol_slow_route` states the composition for the protocol, `canonicalize_hostname_is_standard_partial` follows the
  hostname's slow route through the aggregator's host setter).
Decided on the implementation (checks/props/c15.py): for generated literal component values the constructed pattern's
component string equals the canonical form computed by the Lean Spec of the URL parser/setters, construction fails exactly
when that canonicalisation fails, default-port elision and base-URL inheritance agree with the URL parser, and the
engine-independent vectors of the WPT URLPattern corpus are reproduced.
-/
namespace AdaVerif.Props.C15
open AdaVerif AdaVerif.Spec AdaVerif.Model.Pattern

/-- the entry of `char_class_table` and its four flags spelled with the literal masks; `isSchemeCls b` … `isSimplePath b` are
    `Model.PatternCanon.hasFlag 0 b` … `hasFlag 3 b` by unfolding -/
def cls (b : UInt8) : Nat := tget Gen.charClassTable b.toNat
def isSchemeCls (b : UInt8) : Bool := cls b &&& 1 != 0
def isUpperCls (b : UInt8) : Bool := cls b &&& 2 != 0
def isSimpleHost (b : UInt8) : Bool := cls b &&& 4 != 0
def isSimplePath (b : UInt8) : Bool := cls b &&& 8 != 0

/-- CHAR_SCHEME is exactly the Standard's scheme code points, CHAR_UPPER the ASCII capitals -/
theorem scheme_class : ∀ b : UInt8, isSchemeCls b = isSchemeChar b ∧ isUpperCls b = isAsciiUpper b :=
  fun b => (Lemmas.PC.char_class b).1

/-- a CHAR_SIMPLE_HOSTNAME byte is a lower-case letter, digit, `-` or `.`: it is unchanged by
    lower-casing and by percent-decoding, is not a forbidden domain code point and is ASCII -/
theorem simple_hostname_class : ∀ b : UInt8, isSimpleHost b = true →
    toLowerByte b = b ∧ b ≠ 0x25 ∧ isForbiddenDomain b = false ∧ b.toNat < 0x80 ∧ b ≠ 0x5B := by
  intro b h
  have c := Lemmas.PC.simple_host b h
  exact ⟨c.lower, c.noPercent, c.allowed, c.ascii, c.noOpen⟩

/-- a CHAR_SIMPLE_PATHNAME byte needs no path percent-encoding and is none of `. % \\ ? #`
    nor tab/LF/CR: the path state copies it verbatim and it cannot take part in a dot segment -/
theorem simple_pathname_class : ∀ b : UInt8, isSimplePath b = true →
    inPath b = false ∧ b ≠ 0x2E ∧ b ≠ 0x25 ∧ b ≠ 0x5C ∧ b ≠ 0x3F ∧ b ≠ 0x23 ∧ isTabOrNewline b = false :=
  fun b => (Lemmas.PC.char_class b).2.2

theorem simple_pathname_not_encoded (s : Bytes) (h : ∀ b ∈ s, isSimplePath b = true) :
    percentEncode inPath s = s :=
  Lemmas.FP.percentEncode_id _ s (fun b hb => (simple_pathname_class b (h b hb)).1)

theorem simple_pathname_not_stripped (s : Bytes) (h : ∀ b ∈ s, isSimplePath b = true) : stripTN s = s :=
  Lemmas.PC.stripTN_id s (fun b hb => (simple_pathname_class b (h b hb)).2.2.2.2.2.2)

/-- `escape_pattern_table` marks exactly the code points "escape a pattern string" escapes -/
theorem escape_pattern_table : ∀ b : UInt8, (tget Gen.escapePatternTable b.toNat != 0) = Spec.Pattern.isPatternSyntax b :=
  Lemmas.PC.escape_pattern_bits

/-- `escape_regexp_table` marks exactly the code points "escape a regexp string" escapes:
    . + * ? ^ $ { } ( ) [ ] | / \ -/
theorem escape_regexp_table : ∀ b : UInt8, (tget Gen.escapeRegexpTable b.toNat != 0) =
    (b == 0x2E || b == 0x2B || b == 0x2A || b == 0x3F || b == 0x5E || b == 0x24 || b == 0x7B || b == 0x7D || b == 0x28 ||
     b == 0x29 || b == 0x5B || b == 0x5D || b == 0x7C || b == 0x2F || b == 0x5C) :=
  Lemmas.PC.escape_regexp_bits

/-- `canonicalize_port`'s rule on the significant digits - "at most five, and if five then not
    lexicographically above 65535" - is the numeric rule "value ≤ 65535" (five-digit strings) -/
theorem port_lexicographic_is_numeric : ∀ a b c d e : Fin 10,
    (decide ([48 + a.val, 48 + b.val, 48 + c.val, 48 + d.val, 48 + e.val] > [0x36, 0x35, 0x35, 0x33, 0x35])) =
    decide (a.val * 10000 + b.val * 1000 + c.val * 100 + d.val * 10 + e.val > 65535) := by
  intro a b c d e
  have h := Lemmas.decimal_lex_iff (48 + ·) id 48 [6, 5, 5, 3, 5] [a.val, b.val, c.val, d.val, e.val] rfl (by decide)
    (by simp [a.isLt, b.isLt, c.isLt, d.isLt, e.isLt])
  simp only [List.foldl_cons, List.foldl_nil, id, List.map_cons, List.map_nil] at h
  rw [decide_eq_decide, gt_iff_lt, gt_iff_lt, h]
  omega

example : canonicalizePort (ofStr "0080") = some (ofStr "80") := by decide +kernel
example : canonicalizePort (ofStr "065535") = some (ofStr "65535") := by decide +kernel
example : canonicalizePort (ofStr "65536") = none := by decide +kernel
example : canonicalizePort (ofStr "000") = some (ofStr "0") := by decide +kernel

open AdaVerif.Model.PatternCanon AdaVerif.Lemmas in
/-- `canonicalize_username` / `canonicalize_password`: `percent_encode_index` + `percent_encode(input, set, index)` over the
    userinfo bitmap = UTF-8 percent-encode with the userinfo set -/
theorem canonicalize_username_is_standard (v : Bytes) :
    canonicalizeUsername v = Spec.Pattern.canonUsername v ∧ canonicalizePassword v = Spec.Pattern.canonPassword v :=
  ⟨PC.username_eq v, PC.password_eq v⟩

open AdaVerif.Model.PatternCanon AdaVerif.Lemmas in
/-- `canonicalize_search` / `canonicalize_hash`: tab/newline removal, then the query (fragment) set -/
theorem canonicalize_search_hash_is_standard (v : Bytes) :
    canonicalizeSearch v = Spec.Pattern.canonSearch v ∧ canonicalizeHash v = Spec.Pattern.canonHash v :=
  ⟨PC.search_eq v, PC.hash_eq v⟩

open AdaVerif.Model.PatternCanon AdaVerif.Lemmas in
/-- `canonicalize_ipv6_hostname` and `canonicalize_opaque_pathname` (the opaque path state run by hand: cut at '?' / '#',
    "%20" for a space in front of the cut, C0 control set) -/
theorem canonicalize_ipv6_opaque_is_standard (v : Bytes) :
    canonicalizeIpv6Hostname v = Spec.Pattern.canonIpv6Hostname v ∧
    canonicalizeOpaquePathname v = Spec.Pattern.canonOpaquePathname v :=
  ⟨PC.ipv6_eq v, PC.opaque_eq v⟩

open AdaVerif.Model.PatternCanon AdaVerif.Lemmas in
/-- `canonicalize_port` (digits prefix, leading zeros dropped, at most five significant digits, lexicographic test
    against "65535", the digits returned unparsed) and `canonicalize_port_with_protocol` (`from_chars` into 16 bits,
    `get_special_port` of the protocol, "fake" for none) are the port state with a state override: same failures, the
    shortest decimal spelling, the scheme's default port elided -/
theorem canonicalize_port_is_standard (v protocol : Bytes) :
    canonicalizePortFull v = Spec.Pattern.canonPort v none ∧
    canonicalizePortWithProtocol v protocol = Spec.Pattern.canonPort v (some (portProtocol protocol)) :=
  ⟨PC.port_eq v, PC.port_with_protocol_eq v protocol⟩

open AdaVerif.Model.PatternCanon AdaVerif.Lemmas in
/-- the shortcut of `canonicalize_pathname` never changes the outcome: a value of CHAR_SIMPLE_PATHNAME bytes is what the
    path state with an override (with the two-byte prefix put in front and taken off again) returns -/
theorem canonicalize_pathname_shortcut (v : Bytes) (hne : v ≠ []) (hs : v.all (hasFlag 3) = true) :
    Spec.Pattern.canonPathname v = some v := PC.pathname_fast v hne hs

open AdaVerif.Model.PatternCanon AdaVerif.Lemmas in
/-- `canonicalize_pathname` on both routes is the Standard's callback.  `partial`: stated for a configured maximum length
    that admits the dummy URL "fake://fake-url" (15 bytes) and the buffer after `set_pathname`; below that the callback
    fails (since the fix recorded for C02 - it used to dereference the failed parse) where the Standard knows no limit -/
theorem canonicalize_pathname_is_standard_partial (L : Nat) (v : Bytes) (hL : 15 ≤ L)
    (hfit : (AdaVerif.Model.Agg.layout (AggL.ofUrl (setPathname PC.uFake (if v.head? == some 0x2F then v else [0x2F, 0x2D] ++ v)))).buf.length ≤ L) :
    canonicalizePathname L v = Spec.Pattern.canonPathname v := by
  by_cases hne : v = []
  · subst hne; rfl
  · have h := PC.pathname_slow L v hne hL hfit
    by_cases hs : v.all (hasFlag 3) = true
    · rw [← h]
      simp only [hs, ↓reduceIte]
      unfold canonicalizePathname
      simp [FS.isEmpty_false_of_ne hne, hs]
    · simpa [hs] using h

open AdaVerif.Model.PatternCanon AdaVerif.Lemmas in
/-- the shortcut of `canonicalize_hostname` never changes the outcome: a value of CHAR_SIMPLE_HOSTNAME bytes that
    `checkers::is_ipv4` does not claim is what the hostname state on a special dummy URL returns.  `partial`: for a value
    with an ACE label the Standard runs domain-to-ASCII in full; `hxn` states what `ada::idna::to_ascii` answers for an
    all-ASCII domain (it lower-cases it - `Props/C06.ascii_carve_out` is the same fact on the model of `to_ascii`) -/
theorem canonicalize_hostname_shortcut_partial (idna : Idna) (v : Bytes) (hne : v ≠ []) (hs : v.all (hasFlag 2) = true)
    (h4 : AdaVerif.Model.HostKernels.isIpv4 v = false) (hid : HP.IdnaAt idna v)
    (hxn : (splitOn 0x2E v).any startsWithXn = true → idna.toAscii v = some (v.map toLowerByte)) :
    Spec.Pattern.canonHostname idna v = some v := PC.hostname_fast idna v hne hs h4 hid hxn

open AdaVerif.Model.PatternCanon AdaVerif.Lemmas in
/-- `canonicalize_hostname` on both routes is the Standard's hostname callback (hostname state with a state override on a
    special URL record): the shortcut, and "https://dummy.test" + `set_hostname` + `get_hostname` (the aggregator's host
    setter on the editor layer of C07, `parse_host` of C10) - same failures (a ':' outside brackets, an empty host, a host the
    host parser refuses), same serialised host.  `partial`: IDNA is a parameter (`IdnaAt`, and `hxn` for ACE labels on the
    shortcut), the host setters' bracket condition, and a configured maximum length that admits the dummy URL and the result -/
theorem canonicalize_hostname_is_standard_partial (idna : Idna) (L : Nat) (v : Bytes) (hid : ∀ d, HP.IdnaAt idna d)
    (hxn : (splitOn 0x2E v).any startsWithXn = true → idna.toAscii v = some (v.map toLowerByte))
    (hclean : HS.bracketClean true false (stripTN (v.takeWhile (· != 0x23))) = true)
    (hL : 19 ≤ L)
    (hfit : ∀ h, hostParse idna ((stripTN v).takeWhile (fun b => !Spec.Pattern.isHostTerminator b)) false = some h →
      (AdaVerif.Model.Agg.layout (AggL.ofUrl { PC.uDummy with host := some h })).buf.length ≤ L) :
    canonicalizeHostname idna L v = Spec.Pattern.canonHostname idna v := by
  by_cases hne : v = []
  · subst hne; rfl
  · unfold canonicalizeHostname
    have he : v.isEmpty = false := FS.isEmpty_false_of_ne hne
    simp only [he, Bool.false_eq_true, ↓reduceIte]
    by_cases hf : (v.all (hasFlag 2) && !AdaVerif.Model.HostKernels.isIpv4 v) = true
    · simp only [hf, ↓reduceIte]
      have hf' : v.all (hasFlag 2) = true ∧ AdaVerif.Model.HostKernels.isIpv4 v = false := by simpa using hf
      exact (PC.hostname_fast idna v hne hf'.1 hf'.2 (hid v) hxn).symm
    · simp only [hf, Bool.false_eq_true, ↓reduceIte]
      exact PC.hostname_slow idna L v hne hid hclean hL hfit

open AdaVerif.Model.PatternCanon AdaVerif.Lemmas in
/-- the slow route of `canonicalize_protocol` - `ada::parse<url_aggregator>(value + "://dummy.test")`, `get_protocol()`
    without its ':' - is the scheme of the URL the Standard parses (C01's aggregator theorem; its side conditions) -/
theorem protocol_slow_route (idna : Idna) (L : Nat) (input : Bytes) (hid : ∀ d, HP.IdnaAt idna d)
    (hclean : BR.bracketOk (AdaVerif.Model.ParseSpecial.schemeSpecial (input ++ Spec.Pattern.dummySuffix))
                (AdaVerif.Model.ParseSpecial.hostStart (input ++ Spec.Pattern.dummySuffix)) = true)
    (hL : (input ++ Spec.Pattern.dummySuffix).length ≤ L)
    (hfit : ∀ u, parse idna (input ++ Spec.Pattern.dummySuffix) none = some u →
      (AdaVerif.Model.Agg.layout (AdaVerif.Model.UrlRec.toL (UR.recOf u))).buf.length ≤ L) :
    protocolSlow idna L input = (Spec.Pattern.protocolUrl idna input).map (·.scheme) := by
  unfold protocolSlow AdaVerif.Model.ParseAgg.parseNoBaseAL Spec.Pattern.protocolUrl
  have hsuf : AdaVerif.Model.PatternCanon.dummySuffix = Spec.Pattern.dummySuffix := rfl
  rw [hsuf]
  have hl : ¬ (input ++ Spec.Pattern.dummySuffix).length > L := by omega
  simp only [hl, ↓reduceIte]
  rw [C01.aggregator_parser_no_base_partial idna _ hid hclean]
  cases hp : parse idna (input ++ Spec.Pattern.dummySuffix) none with
  | none => rfl
  | some u =>
    have hf := hfit u hp
    have hl2 : ¬ (AdaVerif.Model.Agg.layout (AdaVerif.Model.UrlRec.toL (UR.recOf u))).buf.length > L := by omega
    simp only [Option.map_some, hl2, ↓reduceIte]
    rw [C07.getProtocol_layout]
    simp [AdaVerif.Model.UrlRec.toL, UR.recOf]

open AdaVerif.Model.PatternCanon AdaVerif.Lemmas in
/-- `canonicalize_protocol` is "canonicalize a protocol": a special scheme's name is returned as it is, a value of
    letters, digits, '+', '-', '.' behind a letter is returned lower-cased (only when a capital occurs), and both are the scheme
    of the URL the Standard parses, `value ++ "://dummy.test"` (`protocolUrl_scheme`: for every such value, whatever IDNA
    answers); every other value takes the slow route (`protocol_slow_route`).  (Until the fix recorded for C15 the function
    also dropped a trailing ':' - "process protocol for init"'s step - and so accepted the part "http:".) -/
theorem canonicalize_protocol_is_standard_partial (idna : Idna) (L : Nat) (v : Bytes)
    (hslow : protocolSlow idna L v = (Spec.Pattern.protocolUrl idna v).map (·.scheme)) :
    canonicalizeProtocol idna L v = Spec.Pattern.canonProtocol idna v :=
  PC.protocol_eq idna L v hslow

open AdaVerif.Model.PatternCanon AdaVerif.Lemmas in
/-- `url_pattern_init::process_*` are "process protocol / username / password / hostname / port / pathname / search / hash
    for init": the single trailing ':' (leading '?', '#') dropped first, the value returned as it is for type "pattern", else
    the canonicalisation callback - for the pathname the ordinary or the opaque one by the protocol, for the port with the
    protocol as the dummy URL's scheme.  The four that do not go through a URL object, and the port, for every value; the
    other three relative to their callbacks (`canonicalize_*_is_standard_partial`) -/
theorem process_for_init_is_standard (value protocol : Bytes) (pat : Bool) (hp : protocol.getLast? ≠ some 0x3A) :
    processUsername value pat = Spec.Pattern.processUsernameForInit value pat ∧
    processPassword value pat = Spec.Pattern.processPasswordForInit value pat ∧
    processSearch value pat = Spec.Pattern.processSearchForInit value pat ∧
    processHash value pat = Spec.Pattern.processHashForInit value pat ∧
    processPort value protocol pat = Spec.Pattern.processPortForInit value protocol pat :=
  ⟨(PC.processSimple_eq value pat).1, (PC.processSimple_eq value pat).2.1, (PC.processSimple_eq value pat).2.2.1,
   (PC.processSimple_eq value pat).2.2.2, PC.processPort_eq value protocol pat hp⟩

open AdaVerif.Model.PatternCanon AdaVerif.Lemmas in
theorem process_for_init_via_callbacks (idna : Idna) (L : Nat) (value protocol : Bytes) (pat : Bool)
    (hproto : ∀ x, canonicalizeProtocol idna L x = Spec.Pattern.canonProtocol idna x)
    (hhost : canonicalizeHostname idna L value = Spec.Pattern.canonHostname idna value)
    (hpath : canonicalizePathname L value = Spec.Pattern.canonPathname value) :
    processProtocol idna L value pat = Spec.Pattern.processProtocolForInit idna value pat ∧
    processHostname idna L value pat = Spec.Pattern.processHostnameForInit idna value pat ∧
    processPathname L value protocol pat = Spec.Pattern.processPathnameForInit value protocol pat := by
  unfold processProtocol processHostname processPathname Spec.Pattern.processProtocolForInit
    Spec.Pattern.processHostnameForInit Spec.Pattern.processPathnameForInit
  cases pat with
  | true => exact ⟨rfl, rfl, rfl⟩
  | false =>
    simp only [Bool.false_eq_true, ↓reduceIte]
    refine ⟨hproto _, hhost, ?_⟩
    rw [Proto.isSpecial_eq, hpath, (canonicalize_ipv6_opaque_is_standard value).2]

open AdaVerif.Model.PatternCanon AdaVerif.Lemmas in
/-- the helpers around the callbacks: `escape_pattern_string`, `escape_regexp_string` (over the regenerated tables),
    `process_base_url_string`, `is_ipv6_address`, `is_absolute_pathname` are the Standard's "escape a pattern string",
    "escape a regexp string", "process a base URL string", "hostname pattern is an IPv6 address", "is an absolute pathname" -/
theorem pattern_helpers_are_standard (v : Bytes) (flag : Bool) :
    escapePatternString v = Spec.Pattern.escapePatternString v ∧
    escapeRegexpString v = Spec.Pattern.escapeRegexpString v ∧
    processBaseUrlString v flag = Spec.Pattern.processBaseUrlString v flag ∧
    isIpv6Address v = Spec.Pattern.isIpv6Address v ∧
    isAbsolutePathname v flag = Spec.Pattern.isAbsolutePathname v flag :=
  ⟨PC.escapePattern_eq v, PC.escapeRegexp_eq v, PC.processBase_eq v flag, PC.isIpv6Address_eq v, PC.isAbsolutePathname_eq v flag⟩

example : AdaVerif.Model.PatternCanon.escapePatternString (ofStr "a+b:c") = ofStr "a\\+b\\:c" ∧
    AdaVerif.Model.PatternCanon.isIpv6Address (ofStr "{[::1]}") = true ∧
    AdaVerif.Model.PatternCanon.isAbsolutePathname (ofStr "{/a}") false = true ∧
    AdaVerif.Model.PatternCanon.isAbsolutePathname (ofStr "{/a}") true = false := by decide +kernel

/-- the two dummy URLs as the parser model leaves them (kernel-evaluated), and the model under a limit that excludes them -/
example : AdaVerif.Model.ParseAgg.parseNoBaseA C10.asciiIdna AdaVerif.Model.PatternCanon.fakeText = some AdaVerif.Model.PatternCanon.fakeUrl ∧
    AdaVerif.Model.ParseAgg.parseNoBaseA C10.asciiIdna AdaVerif.Model.PatternCanon.dummyText = some AdaVerif.Model.PatternCanon.dummyUrl := by
  decide +kernel
example : AdaVerif.Model.PatternCanon.canonicalizePathname 14 (ofStr "/a/../b") = none ∧
    AdaVerif.Model.PatternCanon.canonicalizePathname 100 (ofStr "/a/../b") = some (ofStr "/b") ∧
    AdaVerif.Model.PatternCanon.canonicalizePathname 100 (ofStr "a/./b c") = some (ofStr "a/b%20c") ∧
    AdaVerif.Model.PatternCanon.canonicalizePathname 100 (ofStr "../..") = none ∧
    AdaVerif.Model.PatternCanon.canonicalizePathname 0 (ofStr "/simple_path-1~") = some (ofStr "/simple_path-1~") := by decide +kernel
example : AdaVerif.Model.PatternCanon.canonicalizeHostname C10.asciiIdna 100 (ofStr "EXAMPLE.com") = some (ofStr "example.com") ∧
    AdaVerif.Model.PatternCanon.canonicalizeHostname C10.asciiIdna 18 (ofStr "EXAMPLE.com") = none ∧
    AdaVerif.Model.PatternCanon.canonicalizeHostname C10.asciiIdna 0 (ofStr "example.com") = some (ofStr "example.com") ∧
    AdaVerif.Model.PatternCanon.canonicalizeHostname C10.asciiIdna 100 (ofStr "0x7f.1") = some (ofStr "127.0.0.1") ∧
    AdaVerif.Model.PatternCanon.canonicalizeHostname C10.asciiIdna 100 (ofStr "a b") = none := by decide +kernel
example : AdaVerif.Model.PatternCanon.canonicalizeProtocol C10.asciiIdna 100 (ofStr "HTTPS") = some (ofStr "https") ∧
    AdaVerif.Model.PatternCanon.canonicalizeProtocol C10.asciiIdna 100 (ofStr "http:") = none ∧
    Spec.Pattern.canonProtocol C10.asciiIdna (ofStr "http:") = none ∧
    AdaVerif.Model.PatternCanon.canonicalizeProtocol C10.asciiIdna 100 (ofStr "foo:") = some (ofStr "foo") ∧
    AdaVerif.Model.PatternCanon.canonicalizeProtocol C10.asciiIdna 100 (ofStr "web+X") = some (ofStr "web+x") ∧
    AdaVerif.Model.PatternCanon.canonicalizeProtocol C10.asciiIdna 100 (ofStr " http") = some (ofStr "http") ∧
    AdaVerif.Model.PatternCanon.canonicalizeProtocol C10.asciiIdna 100 (ofStr "1a") = none ∧
    AdaVerif.Model.PatternCanon.canonicalizeProtocol C10.asciiIdna 100 (ofStr ":") = none := by decide +kernel
example : AdaVerif.Model.PatternCanon.canonicalizePortWithProtocol (ofStr "\t0443x") (ofStr "https:") = some [] ∧
    AdaVerif.Model.PatternCanon.canonicalizePortWithProtocol (ofStr "0443") (ofStr "http") = some (ofStr "443") ∧
    AdaVerif.Model.PatternCanon.canonicalizePortFull (ofStr "065535") = some (ofStr "65535") ∧
    AdaVerif.Model.PatternCanon.canonicalizePortFull (ofStr "65536") = none ∧
    AdaVerif.Model.PatternCanon.canonicalizeOpaquePathname (ofStr "a \t#x") = ofStr "a%20" := by decide +kernel

end AdaVerif.Props.C15
